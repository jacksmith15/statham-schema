-- Root of the `StathamModel` library (generated by tools/gen_root.py): imports every module.
import StathamModel.Acc
import StathamModel.Codec
import StathamModel.Dedupe
import StathamModel.Elem
import StathamModel.Env
import StathamModel.Eq
import StathamModel.Float64
import StathamModel.Format
import StathamModel.Good
import StathamModel.History
import StathamModel.Inherit
import StathamModel.Json
import StathamModel.Names
import StathamModel.Orderer
import StathamModel.Parse
import StathamModel.Schema
import StathamModel.SerJson
import StathamModel.Threads
import StathamModel.Tie
import StathamModel.ToSchema
import StathamModel.Validate
import StathamModel.Gen.Constants
import StathamModel.Gen.Signatures
import StathamModel.Gen.Sites
import StathamModel.Gen.Validators
import StathamModel.Lemmas.AccBasics
import StathamModel.Lemmas.AccNames
import StathamModel.Lemmas.AnnotNames
import StathamModel.Lemmas.Assemble
import StathamModel.Lemmas.AssembleLeaf
import StathamModel.Lemmas.AssembleObj
import StathamModel.Lemmas.Build
import StathamModel.Lemmas.CallVerdict
import StathamModel.Lemmas.Descendants
import StathamModel.Lemmas.DictMerge
import StathamModel.Lemmas.ElemBeq
import StathamModel.Lemmas.EqRefl
import StathamModel.Lemmas.EqSymm
import StathamModel.Lemmas.EvalClass
import StathamModel.Lemmas.EvalTree
import StathamModel.Lemmas.Items
import StathamModel.Lemmas.Kids
import StathamModel.Lemmas.KwExpr
import StathamModel.Lemmas.ListAux
import StathamModel.Lemmas.Mask
import StathamModel.Lemmas.ModuleExec
import StathamModel.Lemmas.NoCrash
import StathamModel.Lemmas.NodeFlags
import StathamModel.Lemmas.OrdererComplete
import StathamModel.Lemmas.ParseErr
import StathamModel.Lemmas.ParseNF
import StathamModel.Lemmas.ParseOk
import StathamModel.Lemmas.Properties
import StathamModel.Lemmas.ReachAdequate
import StathamModel.Lemmas.ReprNames
import StathamModel.Lemmas.Results
import StathamModel.Lemmas.Scalars
import StathamModel.Lemmas.SerNames
import StathamModel.Lemmas.SerOk
import StathamModel.Lemmas.SerParses
import StathamModel.Lemmas.SerSem
import StathamModel.Lemmas.TreeGraph
import StathamModel.Lemmas.VAlg
import StathamModel.Props.C01
import StathamModel.Props.C02
import StathamModel.Props.C02Draft6
import StathamModel.Props.C03
import StathamModel.Props.C04
import StathamModel.Props.C04Tree
import StathamModel.Props.C05
import StathamModel.Props.C06
import StathamModel.Props.C07
import StathamModel.Props.C08
import StathamModel.Props.C09
import StathamModel.Props.C10
import StathamModel.Props.C11
import StathamModel.Props.C12
import StathamModel.Props.C13
import StathamModel.Props.C14
import StathamModel.Props.C15
import StathamModel.Props.C16
import StathamModel.Props.C17
import StathamModel.Props.C18
import StathamModel.Props.C19
import StathamModel.Props.C20
import StathamModel.Py.Eval
import StathamModel.Py.EvalClass
import StathamModel.Py.EvalTree
import StathamModel.Py.Module
import StathamModel.Py.Repr
import StathamModel.Py.Typing
import StathamModel.Spec.Draft6
