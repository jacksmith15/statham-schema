/-
  The keyword validators against the Draft-6 clauses, value kind by value kind.
  These are the obligations that break when a comparison operator changes in the library: the ten `fails`
  predicates come from `Gen/Validators.lean`.
  At the end: `AdditionalItems` and `AdditionalProperties`, as validators, never crash.
-/
import StathamModel.Lemmas.VAlg
import StathamModel.Lemmas.NodeFlags
import StathamModel.Spec.Draft6
namespace Statham

theorem Num.not_lt (a b : Num) : (!Num.lt a b) = Num.le b a := by
  simp only [Num.lt, Num.le, ← decide_not, Int.not_lt]

theorem Num.not_le (a b : Num) : (!Num.le a b) = Num.lt b a := by
  simp only [Num.lt, Num.le, ← decide_not, Int.not_le]

theorem optCheck_ofBool {α} (o : Option α) (f : α → Bool) :
    optCheck o (fun a => V.ofBool (f a)) = V.ofBool (D6.optB o f) := by
  cases o <;> rfl

theorem R_optCheck {α} {o : Option α} {f : α → V} {g : α → Bool} (h : ∀ a, R (f a) (g a)) :
    R (optCheck o f) (D6.optB o g) := by
  cases o with
  | none => exact R.pass
  | some a => exact h a

/-- The keywords that look at the instance only, read as a schema object's.  For every keyword record the validators of
    these keywords, `multipleOf` apart, are the Booleans Draft 6 gives for it: that is their specification when the
    record is `baseKw k ..` (C01), and the reason they cannot crash (C10). -/
def Kw.asSKw (kw : Kw) : SKw :=
  { const := kw.const, enum := kw.enum, minimum := kw.minimum, maximum := kw.maximum,
    exclusiveMinimum := kw.exclusiveMinimum, exclusiveMaximum := kw.exclusiveMaximum, multipleOf := kw.multipleOf,
    minLength := kw.minLength, maxLength := kw.maxLength, pattern := kw.pattern, format := kw.format,
    minItems := kw.minItems, maxItems := kw.maxItems, uniqueItems := some kw.uniqueItems,
    minProperties := kw.minProperties, maxProperties := kw.maxProperties }

theorem literalChecks_ofBool (kw : Kw) (v : JVal) : literalChecks kw v = V.ofBool (D6.literalOk kw.asSKw v) := by
  simp only [literalChecks, D6.literalOk, Kw.asSKw, optCheck_ofBool, V.ofBool_and]

/-- `Const`/`Enum` are Draft-6 instance equality against the schema's literal -/
theorem literalChecks_spec (k : SKw) (p : Parts) (d : Option JVal) (v : JVal) (h : litCleanNode k = true) :
    literalChecks (baseKw k p d) v =
      V.ofBool (D6.literalOk k v) := by
  unfold litCleanNode at h
  simp only [Bool.and_eq_true] at h
  obtain ⟨⟨hc, he⟩, _⟩ := h
  have hc' : k.const.map parseLiteral = k.const := by
    cases hcc : k.const with
    | none => rfl
    | some c => rw [Option.map_some, parseLiteral_clean c (by simpa [optAll, hcc] using hc)]
  have he' : (k.enum.map fun l => l.map parseLiteral) = k.enum := by
    cases hee : k.enum with
    | none => rfl
    | some l => rw [Option.map_some, map_parseLiteral_clean l (by simpa [optAll, hee] using he)]
  rw [literalChecks_ofBool]
  simp only [D6.literalOk, Kw.asSKw, baseKw, hc', he']

theorem multipleOfCheck_int (x : Num) (i : Int) (h0 : i ≠ 0) (h1 : i.natAbs < 9007199254740992) :
    multipleOfCheck x (.int i) = V.ofBool (D6.isMultiple x (.int i)) := by
  unfold multipleOfCheck D6.isMultiple
  have hne : (i == 0) = false := by simpa using h0
  simp only [hne, Bool.false_eq_true, if_false]
  cases x with
  | int xi => simp [Num.numer, Num.denom]
  | flt n d => simp [toDouble_small h1, Num.numer, Num.denom]

theorem numChecks_spec (k : SKw) (p : Parts) (d : Option JVal) (x : Num) (h : intMultipleOf k = true) :
    numChecks (baseKw k p d) x = V.ofBool (D6.numOk k x) := by
  unfold numChecks D6.numOk baseKw
  simp only [Gen.Minimum.fails, Gen.Maximum.fails, Gen.ExclusiveMinimum.fails, Gen.ExclusiveMaximum.fails,
    Num.not_lt, Num.not_le, optCheck_ofBool]
  have hm : optCheck k.multipleOf (fun m => multipleOfCheck x m) =
      V.ofBool (D6.optB k.multipleOf fun m => D6.isMultiple x m) := by
    unfold intMultipleOf optAll at h
    cases hk : k.multipleOf with
    | none => rfl
    | some m =>
      rw [hk] at h
      cases m with
      | int i =>
        simp only [Bool.and_eq_true, decide_eq_true_eq] at h
        simp only [optCheck, D6.optB]
        exact multipleOfCheck_int x i (by omega) (by omega)
      | flt _ _ => simp at h
  rw [hm]
  simp only [V.ofBool_and, Bool.and_assoc]

theorem strChecks_ofBool (env : Env) (kw : Kw) (s : String) :
    strChecks env kw s = V.ofBool (D6.strOk env kw.asSKw s) := by
  unfold strChecks D6.strOk Kw.asSKw
  simp only [Gen.MinLength.fails, Gen.MaxLength.fails, Num.not_lt, optCheck_ofBool, JVal.strLen]
  cases hfm : kw.format with
  | none => simp [optCheck, D6.optB, V.ofBool_and, Bool.and_assoc]
  | some f =>
    cases hc : env.fmt f with
    | none => simp [optCheck, D6.optB, V.ofBool_and, Bool.and_assoc, hc]
    | some c => simp [optCheck, D6.optB, V.ofBool_and, Bool.and_assoc, hc]

/-- by unfolding, here and in `arrChecks_spec`: `D6.strOk` / `D6.arrOk` read only fields that `asSKw ∘ baseKw` copies from `k` -/
theorem strChecks_spec (env : Env) (k : SKw) (p : Parts) (d : Option JVal) (s : String) :
    strChecks env (baseKw k p d) s = V.ofBool (D6.strOk env k s) := strChecks_ofBool env _ s

theorem hasDup_eq (xs : List JVal) : hasDup xs = D6.hasDupJ xs := by
  induction xs with
  | nil => rfl
  | cons x xs ih => simp [hasDup, D6.hasDupJ, ih]

theorem arrChecks_ofBool (kw : Kw) (xs : List JVal) : arrChecks kw xs = V.ofBool (D6.arrOk kw.asSKw xs) := by
  unfold arrChecks D6.arrOk Kw.asSKw
  simp only [Gen.MinItems.fails, Gen.MaxItems.fails, Num.not_lt, optCheck_ofBool, hasDup_eq, V.ofBool_and, Bool.and_assoc,
    Option.getD_some]

theorem arrChecks_spec (k : SKw) (p : Parts) (d : Option JVal) (xs : List JVal) :
    arrChecks (baseKw k p d) xs = V.ofBool (D6.arrOk k xs) := arrChecks_ofBool _ xs

/-- With `hmin`/`hmax` instead of `baseKw`: the class's keyword record is the filtered one, and this is used for it too.
    `required` and the array-form `dependencies` stay on the model's side; `R_object` relates them to the children. -/
theorem objChecks_eq (kw : Kw) (info : List (Key × Option JVal)) (dn : List (String × List String))
    (kvs : List (String × JVal)) (k : SKw) (hmin : kw.minProperties = k.minProperties)
    (hmax : kw.maxProperties = k.maxProperties) :
    objChecks kw info dn kvs =
      (V.ofBool ((requiredNames kw info).all fun n => (JVal.keys kvs).contains n)).and
        ((V.ofBool (D6.objSizeOk k kvs)).and
          (V.ofBool (dn.all fun d => !(JVal.keys kvs).contains d.1 || d.2.all fun n => (JVal.keys kvs).contains n))) := by
  unfold objChecks D6.objSizeOk
  simp only [Gen.MinProperties.fails, Gen.MaxProperties.fails, Num.not_lt, optCheck_ofBool, hmin, hmax,
    V.ofBool_and, Bool.and_assoc]

theorem additionalItemsCheck_ne_crash (kw : Kw) {ρ} (sub : SubG ρ) (xs : List JVal) :
    additionalItemsCheck kw sub xs ≠ .crash := by
  unfold additionalItemsCheck
  split
  · split
    · simp
    · split <;> exact V.ofBool_ne_crash _
  · simp

theorem ite_pass_ne_crash (b : Bool) (x : Bool) : (if b = true then V.pass else V.ofBool x) ≠ V.crash := by
  cases b
  · simpa using V.ofBool_ne_crash x
  · simp

theorem additionalPropsCheck_ne_crash {ρ} (env : Env) (c : Cls) (kw : Kw) (sub : SubG ρ) (kvs : List (String × JVal)) :
    additionalPropsCheck env c kw sub kvs ≠ .crash := by
  unfold additionalPropsCheck
  split
  · exact ite_pass_ne_crash _ _
  · exact ite_pass_ne_crash _ _
  · exact ite_pass_ne_crash _ _
  · exact ite_pass_ne_crash _ _
  · nofun

end Statham
