/-
  `_parse_typed`, `_parse_multi_typed`, `_parse_composition`: the element assembled for one
  schema object refines `D6.validCore`.
-/
import StathamModel.Lemmas.AssembleLeaf
import StathamModel.Lemmas.AssembleObj
namespace Statham

theorem RC_typed {env : Env} {cx : PCtx} {k : SKw} {kids : Kids} {σ : D6.SSub} (t : String) (d : Option JVal)
    (K : KidsRel env kids σ) (N : NodeOK cx k kids σ) (ht : t ∈ knownTypes)
    (hobj : t = "object" → typeHasObject k = true) :
    RC ((mkTyped cx t k (partsOf cx k kids) d).acc env)
      (fun v => D6.typeMatch t v && restOk env (typeHasObject k) k σ v) := by
  simp only [knownTypes, List.mem_cons, List.mem_nil_iff, or_false] at ht
  rcases ht with rfl | rfl | rfl | rfl | rfl | rfl | rfl
  · simpa [mkTyped, typedLeaf, Gen.parserTypeMapping, List.lookup] using
      RC_leaf .string "string" strNames _ d K N _ rfl (fun v => by cases v <;> rfl) (fun _ => rfl)
  · simpa [mkTyped, typedLeaf, Gen.parserTypeMapping, List.lookup] using
      RC_leaf .integer "integer" numNames _ d K N _ rfl (fun v => by rcases v with _ | _ | (_ | _) | _ | _ | _ <;> rfl)
        (fun _ => rfl)
  · simpa [mkTyped, typedLeaf, Gen.parserTypeMapping, List.lookup] using
      RC_leaf .number "number" numNames _ d K N _ rfl (fun v => by cases v <;> rfl) (fun _ => rfl)
  · simpa [mkTyped, typedLeaf, Gen.parserTypeMapping, List.lookup] using
      RC_leaf .boolean "boolean" litNames _ d K N _ rfl (fun v => by cases v <;> rfl) (fun _ => rfl)
  · simpa [mkTyped, typedLeaf, Gen.parserTypeMapping, List.lookup] using
      RC_leaf .null "null" litNames _ d K N _ rfl (fun v => by cases v <;> rfl) (fun _ => rfl)
  · simpa [mkTyped] using RC_array d K N _
  · have := RC_class d K N (hobj rfl)
    rw [hobj rfl]
    simpa [mkTyped] using this

theorem any_and_right {α} (l : List α) (p : α → Bool) (c : Bool) :
    (l.any fun t => p t && c) = (l.any p && c) := by
  induction l with
  | nil => simp
  | cons a l ih => simp only [List.any_cons, ih]; cases p a <;> cases c <;> simp

theorem RC_base {env : Env} {cx : PCtx} {k : SKw} {kids : Kids} {σ : D6.SSub} (d : Option JVal)
    (K : KidsRel env kids σ) (N : NodeOK cx k kids σ) (hwf : typeOK k) :
    RC ((assembleBase cx k (partsOf cx k kids) d).acc env)
      (fun v => D6.typeOk k.type v && restOk env (typeHasObject k) k σ v) := by
  unfold assembleBase
  unfold typeOK at hwf
  cases hty : k.type with
  | none =>
    have : typeHasObject k = false := by simp [typeHasObject, hty]
    simp only [D6.typeOk, Bool.true_and, this]
    exact RC_untyped d K N
  | single t =>
    rw [hty] at hwf
    exact RC_typed t d K N hwf (fun h => by simp [typeHasObject, hty, h])
  | list ts =>
    rw [hty] at hwf
    have hmem : ∀ d', ∀ t ∈ ts, RC ((mkTyped cx t k (partsOf cx k kids) d').acc env)
        (fun v => D6.typeMatch t v && restOk env (typeHasObject k) k σ v) := fun d' t htm =>
      RC_typed t d' K N (hwf.2 t htm) fun h => by simp [typeHasObject, hty, ← h, htm]
    match ts, hwf.1, hmem with
    | [t], _, hmem => simpa [D6.typeOk] using hmem d t (.head _)
    | t :: t2 :: rest, _, hmem =>
      refine (RC_anyOf (All2.map_self fun a ha => hmem none a ha) d).congr fun v _ => ?_
      simp only [D6.typeOk, List.any_map]
      exact any_and_right _ _ _

theorem RC_not {env : Env} {e : Elem} {g : D6.VF} (h : RC (e.acc env) g) :
    RC ((Elem.mk .not {} [] none none [] [] none none [] [e]).acc env) (fun v => !g v) :=
  ⟨fun v hv => by rw [acc_not_val]; exact (h.1 v hv).not, acc_notPassed_ne_reject env _⟩

theorem RC_finish {env : Env} {el : Elem} {g : D6.VF} (d : Option JVal) (h : RC (el.acc env) g) :
    RC ((finishComposition el d).acc env) g := by
  unfold finishComposition
  split
  · refine ⟨fun v hv => ?_, acc_notPassed_ne_reject env _⟩
    rw [acc_compose_val env .allOf rfl]
    have := R_attempt_allOf (All2.cons (h.1 v hv) All2.nil) (by simp)
    simpa [accList] using this
  · cases d with
    | some dv => exact RC_withDefault h _
    | none => exact h

/-- a composition keyword that may be absent: `_compose_elements` of no element is `Element()` -/
theorem RC_composeOpt {env : Env} {c : Cls} {es : List Elem} {has : Bool} {spec : JVal → Bool}
    (hhas : has = !es.isEmpty) (h : es ≠ [] → RC ((composeElements c es).acc env) spec) :
    RC ((composeElements c es).acc env) (fun v => !has || spec v) := by
  cases es with
  | nil => subst hhas; exact RC_trivial env
  | cons a l => subst hhas; exact h (List.cons_ne_nil a l)

/-- the `Not` member of a composition, there with the keyword -/
theorem RC_notOpt {env : Env} {kn : Option Elem} {sn : Option D6.VF} :
    OptRel (ERel env) kn sn → All2 (ERel env)
      (match kn with
        | some e => [Elem.mk .not {} [] none none [] [] none none [] [e]]
        | none => [])
      (sn.toList.map fun f v => !f v)
  | .none => All2.nil
  | .some hr => All2.cons (RC_not hr) All2.nil

theorem RC_composition {env : Env} {cx : PCtx} {k : SKw} {kids : Kids} {σ : D6.SSub} (d : Option JVal)
    (K : KidsRel env kids σ) (N : NodeOK cx k kids σ)
    (hwf : typeOK k)
    (hany : k.hasAnyOf = !kids.anyOf.isEmpty) (hone : k.hasOneOf = !kids.oneOf.isEmpty)
    (hall : k.hasAllOf = !kids.allOf.isEmpty) :
    RC ((assembleComposition cx k (partsOf cx k kids) d kids.anyOf kids.oneOf kids.allOf kids.not).acc env)
      (D6.validCore env typeHasObject k σ) := by
  unfold assembleComposition compositionMembers
  -- the members of the outer allOf, each against its clause of the specification
  have hL := ((((All2.cons (r := ERel env) (RC_base none K N hwf) All2.nil).append K.allOf).append
    (All2.cons (RC_composeOpt hone (RC_composeOne K.oneOf)) All2.nil)).append
    (All2.cons (RC_composeOpt hany (RC_composeAny K.anyOf)) All2.nil)).append (RC_notOpt K.not)
  obtain ⟨gs', hfilt, hgs'⟩ := filter_trivial_rel hL
  refine RC_finish d ((RC_composeAll hfilt).congr fun v hv => ?_)
  have hall' : (!k.hasAllOf || σ.allOf.all fun f => f v) = σ.allOf.all fun f => f v := by
    rw [hall, K.allOf.isEmpty_eq]
    cases σ.allOf <;> rfl
  have hnot : ((σ.not.toList.map fun f v => !f v).all fun g => g v) = D6.optB σ.not fun f => !f v := by
    cases σ.not <;> simp [D6.optB]
  rw [hgs' v hv, validCore_split]
  simp only [D6.compositionOk, D6.countTrue, hall', hnot, List.all_append, List.all_cons, List.all_nil, Bool.and_true]
  ac_rfl

/-- `parse_element` on one schema object, given its parsed sub-schemas -/
theorem RC_assembleK {env : Env} {cx : PCtx} {k : SKw} {kids : Kids} {σ : D6.SSub}
    (K : KidsRel env kids σ) (N : NodeOK cx k kids σ)
    (hwf : match k.type with
      | .none => True
      | .single t => t ∈ knownTypes
      | .list ts => ts ≠ [] ∧ ∀ t ∈ ts, t ∈ knownTypes)
    (hany : k.hasAnyOf = !kids.anyOf.isEmpty) (hone : k.hasOneOf = !kids.oneOf.isEmpty)
    (hall : k.hasAllOf = !kids.allOf.isEmpty) :
    RC ((assembleK cx k kids).acc env) (D6.validCore env typeHasObject k σ) := by
  unfold assembleK assemble
  simp only
  by_cases hc : hasComposition k kids.not = true
  · simp only [hc, if_true]
    exact RC_composition _ K N hwf hany hone hall
  · simp only [hc]
    refine (RC_base _ K N hwf).congr ?_
    intro v
    rw [validCore_split]
    have hc' : hasComposition k kids.not = false := by simpa using hc
    simp only [hasComposition, Bool.or_eq_false_iff] at hc'
    obtain ⟨⟨⟨h1, h2⟩, h3⟩, h4⟩ := hc'
    have hn : σ.not = none := by
      have hk := K.not
      have : kids.not = none := by cases h : kids.not <;> simp_all
      rw [this] at hk
      generalize σ.not = sn at hk
      cases hk; rfl
    simp [D6.compositionOk, h1, h2, h3, hn, D6.optB]

end Statham
