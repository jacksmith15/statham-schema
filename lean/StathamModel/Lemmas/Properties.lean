/-
  Objects: `Properties.__getitem__` / `__call__`, `Required`, `PropertyNames`,
  `Dependencies` against `properties` / `patternProperties` / `additionalProperties` /
  `required` / `propertyNames` / `dependencies` of Draft 6.
-/
import StathamModel.Lemmas.AccBasics
import StathamModel.Lemmas.Scalars
import StathamModel.Lemmas.CallVerdict
namespace Statham

abbrev VProp := Key × Option JVal × CallG V
abbrev SProp := String × Bool × D6.VF

def srcs (vp : List VProp) : List String := vp.map (·.1.src)

theorem srcs_append (a b : List VProp) : srcs (a ++ b) = srcs a ++ srcs b := List.map_append

/-- with distinct sources, "last property whose source is `k`" is "the property whose source is `k`" -/
theorem findDeclared_find (vp : List VProp) (k : String) (hd : distinct (srcs vp) = true) :
    findDeclared vp k = (vp.find? fun p => p.1.src == k).map fun p => (p.1, p.2.2) := by
  rw [findDeclared_eq, find?_reverse]
  intro a ha b hb hak hbk
  exact eq_of_distinct_map hd ha hb ((beq_iff_eq.mp hak).trans (beq_iff_eq.mp hbk).symm)

structure PropRel (p : VProp) (q : SProp) : Prop where
  src : p.1.src = q.1
  rc : RC p.2.2 q.2.2
  dflt : q.2.1 = p.2.1.isSome

theorem find_lookup {vd : List VProp} {sp : List SProp} (h : All2 PropRel vd sp) (k : String) :
    OptRel (fun (p : VProp) (g : D6.VF) => RC p.2.2 g) (vd.find? fun p => p.1.src == k) (D6.lookupProp sp k) := by
  induction h with
  | nil => exact OptRel.none
  | @cons p q ps qs hr _ ih =>
    obtain ⟨n, dd, g⟩ := q
    simp only [List.find?_cons, D6.lookupProp]
    have hs : p.1.src = n := hr.src
    by_cases e : n = k
    · subst e; simp only [hs, beq_self_eq_true, if_true]; exact OptRel.some hr.rc
    · have : (p.1.src == k) = false := by simp [hs, e]
      simp only [this, e, if_false]
      exact ih

def PatRel (p : Key × CallG V) (q : String × D6.VF) : Prop := p.1.name = q.1 ∧ RC p.2 q.2

theorem matchingPats_rel {env : Env} {vpats : List (Key × CallG V)} {spats : List (String × D6.VF)}
    (h : All2 PatRel vpats spats) (k : String) :
    All2 RC (matchingPats env vpats k) ((spats.filter fun p => env.re p.1 k).map (·.2)) := by
  unfold matchingPats
  induction h with
  | nil => exact All2.nil
  | @cons p q ps qs hr _ ih =>
    have e : p.1.name = q.1 := hr.1
    by_cases hm : env.re q.1 k = true
    · simp only [List.filter, e, hm, List.map_cons]; exact All2.cons hr.2 ih
    · have hm' : env.re q.1 k = false := by simpa using hm
      simp only [List.filter, e, hm']; exact ih

/-- `AddlRel` without the truthy flag: on these classes `additionalProperties` has no validator of its own -/
inductive AddlRelP : Option (CallG V) → Bool → Option D6.VF → Prop
  | absent : AddlRelP none true none
  | lit (b : Bool) : AddlRelP none b (some fun _ => b)
  | elem {f : CallG V} {g : D6.VF} : RC f g → AddlRelP (some f) true (some g)

theorem additionalPropCall_rel {kw : Kw} {sub : VSub} {σ : D6.SSub}
    (h : AddlRelP sub.addProps kw.addPropsB σ.addProps) :
    RC (additionalPropCall vAlg kw sub) (fun x => D6.optB σ.addProps fun f => f x) := by
  unfold additionalPropCall
  generalize sub.addProps = sa at h
  generalize kw.addPropsB = kb at h
  generalize σ.addProps = σa at h
  cases h with
  | absent => exact ⟨fun x _ => R.pass, by simp [vAlg, trivialV]⟩
  | lit =>
    cases kb
    · exact ⟨fun x _ => R.reject, by simp [vAlg, nothingV]⟩
    · exact ⟨fun x _ => R.pass, by simp [vAlg, trivialV]⟩
  | elem hr => exact hr

theorem R_allOfV {fs : List (CallG V)} {gs : List D6.VF} (h : All2 RC fs gs) (hne : gs ≠ []) (x : JVal)
    (hx : distinctKeys x = true) :
    R (allOfV fs (.val x)) (gs.all fun g => g x) := by
  simp only [allOfV]
  exact (R_attempt_allOf (h.vals x hx) (by simpa using hne)).congr List.all_map

theorem allOfV_np (fs : List (CallG V)) : allOfV fs .notPassed = .pass := rfl

/-- How an object element was set up: `vd` the declared properties, related to `σ.props`; `vs` the synthetic required ones
    the parser adds (they always pass); `perm`: those exist only where the specification's `additionalProperties` lets
    everything through (flag `noSynthetic`). -/
structure ObjSetup (kw : Kw) (sub : VSub) (σ : D6.SSub) (vd vs : List VProp) : Prop where
  split : sub.props = vd ++ vs
  decl : All2 PropRel vd σ.props
  dist : distinct (srcs (vd ++ vs)) = true
  synth : ∀ p ∈ vs, ∀ a, p.2.2 a = .pass
  perm : vs ≠ [] → ∀ x, (D6.optB σ.addProps fun f => f x) = true
  pats : All2 PatRel sub.patProps σ.patProps
  addl : AddlRelP sub.addProps kw.addPropsB σ.addProps

/-- The specification's reading of a key: one validator for each element `Properties` finds (a synthetic property stands
    against the validator that accepts everything), and `additionalProperties` if it finds none. -/
theorem propCandidates_rel {kw : Kw} {sub : VSub} {σ : D6.SSub} {vd vs : List VProp}
    (S : ObjSetup kw sub σ vd vs) (env : Env) (k : String) :
    ∃ gs, All2 RC (propCandidates env sub k) gs ∧
      ∀ x, D6.memberOk env σ k x = if gs.isEmpty then D6.optB σ.addProps (fun f => f x) else gs.all (· x) := by
  have hp := matchingPats_rel (env := env) S.pats k
  have hlk := find_lookup S.decl k
  unfold propCandidates D6.memberOk
  rw [S.split, findDeclared_find _ _ S.dist, List.find?_append]
  generalize matchingPats env sub.patProps k = fs at hp ⊢
  generalize (σ.patProps.filter fun p => env.re p.1 k) = gps at hp ⊢
  generalize vd.find? (fun p => p.1.src == k) = q at hlk ⊢
  generalize D6.lookupProp σ.props k = o at hlk ⊢
  cases hlk with
  | some hr => exact ⟨_, All2.cons hr hp, fun x => by simp [D6.optB, List.all_map, Function.comp_def]⟩
  | none =>
    cases hvs : vs.find? (fun p => p.1.src == k) with
    | none => exact ⟨_, hp, fun x => by cases gps <;> simp [D6.optB, List.all_map, Function.comp_def]⟩
    | some p =>
      have hmem : p ∈ vs := List.mem_of_find?_eq_some hvs
      have hpass := S.synth p hmem
      have hrp : RC p.2.2 (fun _ => true) := ⟨fun y _ => by rw [hpass]; exact R.pass, by rw [hpass]; nofun⟩
      refine ⟨_, All2.cons hrp hp, fun x => ?_⟩
      cases gps with
      | nil => simpa [D6.optB] using S.perm (List.ne_nil_of_mem hmem) x
      | cons => simp [D6.optB, List.all_map, Function.comp_def]

theorem R_resolve_val {env : Env} {kw : Kw} {sub : VSub} {σ : D6.SSub} {vd vs : List VProp}
    (S : ObjSetup kw sub σ vd vs) (k : String) (x : JVal) (hx : distinctKeys x = true) :
    R (resolveCall vAlg env kw sub k (.val x)).2 (D6.memberOk env σ k x) := by
  obtain ⟨gs, hrel, hm⟩ := propCandidates_rel S env k
  rw [resolveCall_snd, hm]
  generalize propCandidates env sub k = fs at hrel ⊢
  cases hrel with
  | nil => exact (additionalPropCall_rel S.addl).1 x hx
  | cons hr ht =>
    cases ht with
    | nil => simpa using hr.1 x hx
    | cons hr2 ht2 => exact R_allOfV (All2.cons hr (All2.cons hr2 ht2)) (by simp) x hx

theorem resolve_np_ne_reject {env : Env} {kw : Kw} {sub : VSub} {σ : D6.SSub} {vd vs : List VProp}
    (S : ObjSetup kw sub σ vd vs) (k : String) : (resolveCall vAlg env kw sub k .notPassed).2 ≠ .reject := by
  obtain ⟨gs, hrel, -⟩ := propCandidates_rel S env k
  rw [resolveCall_snd]
  generalize propCandidates env sub k = fs at hrel ⊢
  cases hrel with
  | nil => exact (additionalPropCall_rel S.addl).2
  | cons hr ht =>
    cases ht with
    | nil => exact hr.2
    | cons => nofun

theorem R_propsOuts {env : Env} {kw : Kw} {sub : VSub} {σ : D6.SSub} {vd vs : List VProp}
    (S : ObjSetup kw sub σ vd vs) (kvs : List (String × JVal))
    (hdk : distinct (kvs.map (·.1)) = true) (hvals : ∀ kv ∈ kvs, distinctKeys kv.2 = true) :
    R (V.all (fun o => o.2) (propsOuts vAlg env kw sub kvs))
      (kvs.all fun kv => D6.memberOk env σ kv.1 kv.2) := by
  -- the model visits declared sources ∪ instance keys, the specification the instance keys only; a declared source the
  -- instance lacks is called with not-passed
  unfold propsOuts
  rw [V.all_map]
  refine R.all_surplus (·.1) (fun kv hkv => mem_visitKeys.mpr (.inr (List.mem_map_of_mem hkv))) (fun kv hkv => ?_)
    fun k _ hk => ?_
  · rw [argOf_mem hdk hkv]
    exact R_resolve_val S kv.1 kv.2 (hvals kv hkv)
  · rw [argOf_not_mem hk]
    exact resolve_np_ne_reject S k

theorem R_propNames {sub : VSub} {σ : D6.SSub} (h : OptRel RC sub.propNames σ.propNames)
    (kvs : List (String × JVal)) :
    R (propNamesCheck id sub kvs) (D6.optB σ.propNames fun f => kvs.all fun kv => f (.str kv.1)) := by
  unfold propNamesCheck
  generalize sub.propNames = a at h
  generalize σ.propNames = b at h
  cases h with
  | none => exact R.pass
  | some hr => exact R.all fun kv _ => hr.1 (.str kv.1) (distinctKeys_str _)

def DepRel (p : Key × CallG V) (q : Key × D6.VF) : Prop := p.1 = q.1 ∧ RC p.2 q.2

def isNamesDep {α} (d : Key × α) : Bool := d.1.names.isSome

def depNamesOk {α} (l : List (Key × α)) (ks : List String) : Bool :=
  l.all fun d => match d.1.names with
    | some ns => !ks.contains d.1.name || ns.all fun n => ks.contains n
    | none => true

/-- one entry of the array-form half of `dependencies` (a Boolean) -/
def depNameOk {α} (ks : List String) (d : Key × α) : Bool :=
  match d.1.names with
  | some ns => !ks.contains d.1.name || ns.all fun n => ks.contains n
  | none => true

theorem depNamesOk_eq {α} (l : List (Key × α)) (ks : List String) :
    depNamesOk l ks = l.all (depNameOk ks) := rfl

theorem depNamesOf_all {ρ} (sub : SubG ρ) (ks : List String) :
    ((depNamesOf sub).all fun d => !ks.contains d.1 || d.2.all fun n => ks.contains n) =
      sub.deps.all (depNameOk ks) := by
  rw [depNamesOf, List.all_filterMap]
  apply all_congr_mem
  intro d _
  unfold depNameOk
  cases d.1.names <;> rfl

def depElemV (kvs : List (String × JVal)) (d : Key × CallG V) : V :=
  if d.1.names.isSome || !(JVal.keys kvs).contains d.1.name then .pass else d.2 (.val (.obj kvs))

def depSpec (kvs : List (String × JVal)) (d : Key × D6.VF) : Bool :=
  !(JVal.keys kvs).contains d.1.name ||
    match d.1.names with
    | some l => l.all fun n => (JVal.keys kvs).contains n
    | none => d.2 (.obj kvs)

theorem R_dep_one {p : Key × CallG V} {q : Key × D6.VF} (h : DepRel p q) (kvs : List (String × JVal))
    (hkvs : distinctKeys (.obj kvs) = true) :
    R ((V.ofBool (depNameOk (JVal.keys kvs) p)).and (depElemV kvs p)) (depSpec kvs q) := by
  obtain ⟨hk, hrc⟩ := h
  unfold depNameOk depElemV depSpec
  rw [← hk]
  cases hn : p.1.names with
  | some ns => simp only [Option.isSome_some, Bool.true_or, if_true, V.and_pass_right]; exact R.ofBool _
  | none =>
    simp only [Option.isSome_none, Bool.false_or, V.ofBool_true, V.and_pass_left]
    by_cases hc : (JVal.keys kvs).contains p.1.name = true
    · simp only [hc, Bool.not_true, Bool.false_eq_true, if_false, Bool.false_or]; exact hrc.1 _ hkvs
    · have hc' : (JVal.keys kvs).contains p.1.name = false := by simpa using hc
      simp only [hc', Bool.not_false, if_true, Bool.true_or]; exact R.pass

theorem R_deps {sub : VSub} {σ : D6.SSub} {l : List (Key × CallG V)}
    (hsplit : sub.deps = l.filter isNamesDep ++ l.filter fun d => !isNamesDep d)
    (hrel : All2 DepRel l σ.deps) (kvs : List (String × JVal)) (hkvs : distinctKeys (.obj kvs) = true) :
    R ((V.ofBool (sub.deps.all (depNameOk (JVal.keys kvs)))).and (depElemsCheck id sub kvs)) (D6.depsOk σ kvs) := by
  have he : depElemsCheck id sub kvs = V.all (depElemV kvs) sub.deps := rfl
  have hs : D6.depsOk σ kvs = σ.deps.all (depSpec kvs) := rfl
  -- `orderDeps` is a permutation, and both `all`s are permutation-invariant
  rw [he, hs, hsplit, (List.filter_append_perm _ _).all_eq, V.all_perm _ (List.filter_append_perm _ _), V.ofBool_all_and]
  exact R.all2 (hrel.imp fun _ _ _ _ hr => R_dep_one hr kvs hkvs)

theorem R_object {env : Env} {kw : Kw} {k : SKw} {sub : VSub} {σ : D6.SSub} {vd vs : List VProp}
    {l : List (Key × CallG V)} (lenient : SKw → Bool) (kvs : List (String × JVal))
    (S : ObjSetup kw sub σ vd vs)
    (hkvs : distinctKeys (.obj kvs) = true)
    (hmin : kw.minProperties = k.minProperties) (hmax : kw.maxProperties = k.maxProperties)
    (hreq : ((requiredNames kw (sub.props.map fun p => (p.1, p.2.1))).all fun n => (JVal.keys kvs).contains n) =
      D6.requiredOk (lenient k) k σ kvs)
    (hpn : OptRel RC sub.propNames σ.propNames)
    (hsplit : sub.deps = l.filter isNamesDep ++ l.filter fun d => !isNamesDep d)
    (hrel : All2 DepRel l σ.deps) :
    R (((objChecks kw (sub.props.map fun p => (p.1, p.2.1)) (depNamesOf sub) kvs).and
          ((propNamesCheck id sub kvs).and (depElemsCheck id sub kvs))).and
        (V.all (fun o => o.2) (propsOuts vAlg env kw sub kvs)))
      (D6.objSizeOk k kvs && D6.objectOk env lenient k σ kvs) := by
  rw [objChecks_eq kw _ _ kvs k hmin hmax, hreq, depNamesOf_all]
  have hobj := distinctKeys_obj hkvs
  have := R.and (R.ofBool (D6.requiredOk (lenient k) k σ kvs)) (R.and (R.ofBool (D6.objSizeOk k kvs))
    (R.and (R_deps hsplit hrel kvs hkvs) (R.and (R_propNames hpn kvs) (R_propsOuts (env := env) S kvs hobj.1 hobj.2))))
  refine this.congr2 ?_ ?_
  · ac_rfl
  · unfold D6.objectOk; ac_rfl

end Statham
