/-
  The serializer composed with the parser and with the Draft-6 specification.

  * `parse_toSchema`  — for every tree in the parser's normal form, parsing the serialized document gives the
                        tree back (the C06 round trip, one structural induction on top of the node equation);
  * `ser_ok`          — for every such tree whose serialization meets the `Good` conditions, the serialized
                        document, read by Draft 6, accepts what the tree accepts (the C03 meaning clause):
                        the tree is what the parser returns on that document, so this is `parse_ok` at `toSchema e`.
-/
import StathamModel.Lemmas.ParseOk
namespace Statham

theorem toSchema_nothing : toSchema Elem.nothing = .bool false := by
  rw [Elem.nothing, Elem.leaf, toSchema]; rfl

theorem toSchema_mk {c : Cls} {kw : Kw} {items : List Elem} {addI cont : Option Elem} {props pats : List (Key × Elem)}
    {addP pn : Option Elem} {deps : List (Key × Elem)} {els : List Elem} (hc : c ≠ .nothing) :
    toSchema (.mk c kw items addI cont props pats addP pn deps els) =
      .mk (nodeSKw c kw props) (tsList items) (addlSchema (tsOpt addI) kw.addItemsB) (tsOpt cont) (tsProps props)
        (tsPats pats) (addlSchema (tsOpt addP) kw.addPropsB) (tsOpt pn) (tsDeps deps)
        (membersFor c .anyOf (tsList els)) (membersFor c .oneOf (tsList els)) (membersFor c .allOf (tsList els))
        (notFor c (tsList els)) := by
  rw [toSchema]
  have : (c == Cls.nothing) = false := by simpa using hc
  simp only [this, Bool.false_eq_true, if_false]

theorem toSchema_isMk {e : Elem} (hc : e.cls ≠ .nothing) : ∀ b, toSchema e ≠ .bool b := by
  cases e with
  | mk c kw items addI cont props pats addP pn deps els => rw [toSchema_mk (c := c) hc]; exact fun _ => nofun

theorem parseAddl_mk (cx : PCtx) {s : Schema} (h : ∀ b, s ≠ .bool b) :
    parseAddl cx (some s) = (some (parseE cx s), true) := by
  cases s with
  | bool b => exact absurd rfl (h b)
  | mk => rw [parseAddl]

theorem parseMembers_ts (cx : PCtx) {c : Cls} {els : List Elem} (h : parseList cx (tsList els) = els) (m : Cls) :
    parseList cx (membersFor c m (tsList els)) = membersFor c m els := by
  unfold membersFor
  split
  · exact h
  · rw [parseList]

theorem parseOpt_head (cx : PCtx) (l : List Schema) : parseOpt cx l.head? = (parseList cx l).head? := by
  cases l with
  | nil => rw [parseList]; exact parseOpt.eq_1 cx
  | cons s ss => rw [parseList]; exact parseOpt.eq_2 cx s

mutual
theorem parse_toSchema (cx : PCtx) : ∀ (e : Elem), NF cx e → parseE cx (toSchema e) = e
  | .mk c kw items addI cont props pats addP pn deps els, h => by
    rw [NF] at h
    obtain ⟨hn, hi, hai, hco, hp, hpp, hap, hpn, hd, he⟩ := h
    by_cases hc : c = .nothing
    · rw [hn.1 hc, toSchema_nothing, parseE]
      rfl
    · have hels := parseList_ts cx els he
      have hnot : parseOpt cx (notFor c (tsList els)) = notFor c els := by
        unfold notFor
        split
        · rw [parseOpt_head, hels]
        · rw [parseOpt]
      rw [toSchema_mk hc, parseE, parseList_ts cx items hi, parseAddl_addl cx addI kw.addItemsB hn.2.2.1 hai,
        parseOpt_ts cx cont hco, parseProps_ts cx props hp, parsePats_ts cx pats hpp,
        parseAddl_addl cx addP kw.addPropsB hn.2.2.2 hap, parseOpt_ts cx pn hpn, parseDeps_ts cx deps hd,
        parseMembers_ts cx hels, parseMembers_ts cx hels, parseMembers_ts cx hels, hnot]
      exact hn.2.1 hc
theorem parseOpt_ts (cx : PCtx) : ∀ (o : Option Elem), NFO cx o → parseOpt cx (tsOpt o) = o
  | none, _ => by rw [tsOpt, parseOpt]
  | some e, h => by
    rw [NFO] at h
    rw [tsOpt, parseOpt, parse_toSchema cx e h]
theorem parseAddl_addl (cx : PCtx) : ∀ (o : Option Elem) (b : Bool), notNothing o → NFO cx o →
    parseAddl cx (addlSchema (tsOpt o) b) = addlKid o b
  | none, b, _, _ => by cases b <;> simp [addlSchema, tsOpt, addlKid, parseAddl]
  | some a, b, hnn, h => by
    rw [NFO] at h
    rw [tsOpt, addlSchema, parseAddl_mk cx (toSchema_isMk hnn), parse_toSchema cx a h]
    rfl
theorem parseList_ts (cx : PCtx) : ∀ (l : List Elem), NFL cx l → parseList cx (tsList l) = l
  | [], _ => by rw [tsList, parseList]
  | e :: es, h => by
    rw [NFL] at h
    rw [tsList, parseList, parse_toSchema cx e h.1, parseList_ts cx es h.2]
theorem parseProps_ts (cx : PCtx) : ∀ (l : List (Key × Elem)), NFK cx l →
    parseNamed cx (tsProps l) = l.map fun p => (p.1.src, p.2)
  | [], _ => by rw [tsProps, parseNamed]; rfl
  | (k, e) :: r, h => by
    rw [NFK] at h
    rw [tsProps, parseNamed, parse_toSchema cx e h.1, parseProps_ts cx r h.2]
    rfl
theorem parsePats_ts (cx : PCtx) : ∀ (l : List (Key × Elem)), NFK cx l →
    parseNamed cx (tsPats l) = l.map fun p => (p.1.name, p.2)
  | [], _ => by rw [tsPats, parseNamed]; rfl
  | (k, e) :: r, h => by
    rw [NFK] at h
    rw [tsPats, parseNamed, parse_toSchema cx e h.1, parsePats_ts cx r h.2]
    rfl
theorem parseDeps_ts (cx : PCtx) : ∀ (l : List (Key × Elem)), NFK cx l → parseDeps cx (tsDeps l) = l
  | [], _ => by rw [tsDeps, parseDeps]
  | (k, e) :: r, h => by
    rw [NFK] at h
    rw [tsDeps, parseDeps, parse_toSchema cx e h.1, parseDeps_ts cx r h.2]
end

theorem declaresDefault_ts (e : Elem) (h : e.cls = .nothing → e = Elem.nothing) :
    D6.declaresDefault (toSchema e) = e.kw.default.isSome := by
  cases e with
  | mk c kw items addI cont props pats addP pn deps els =>
    by_cases hc : c = .nothing
    · rw [h hc, toSchema_nothing]; rfl
    · rw [toSchema_mk hc]; rfl

theorem NF_node {cx : PCtx} {e : Elem} (h : NF cx e) : NFnode cx e := by
  cases e with
  | mk c kw items addI cont props pats addP pn deps els => rw [NF] at h; exact h.1

theorem tsProps_names (l : List (Key × Elem)) : (tsProps l).map (·.1) = (l.map fun p => (p.1.src, p.2)).map (·.1) := by
  induction l with
  | nil => rw [tsProps]; rfl
  | cons p l ih => obtain ⟨k, e⟩ := p; rw [tsProps]; simp [ih]

theorem tsList_isEmpty (l : List Elem) : (tsList l).isEmpty = l.isEmpty := by
  cases l with
  | nil => rw [tsList]; rfl
  | cons e es => rw [tsList]; rfl

theorem membersFor_isEmpty (c m : Cls) (l : List Elem) :
    (membersFor c m (tsList l)).isEmpty = (membersFor c m l).isEmpty := by
  unfold membersFor
  split
  · exact tsList_isEmpty l
  · rfl

/-- the `defaultFaithful` condition holds of a serialized property list: each property's document declares a default
    exactly when the property has one -/
theorem tsProps_faithful (cx : PCtx) : ∀ (l : List (Key × Elem)), NFK cx l →
    ∀ p ∈ tsProps l, (parseE cx p.2).kw.default.isSome = declaresDefaultS p.2
  | [], _, p, hp => by rw [tsProps] at hp; cases hp
  | (k, e) :: r, h, p, hp => by
    rw [NFK] at h
    rw [tsProps] at hp
    rcases List.mem_cons.mp hp with rfl | hp
    · rw [parse_toSchema cx e h.1, ← declaresDefault_eq, declaresDefault_ts e (NF_node h.1).1]
    · exact tsProps_faithful cx r h.2 p hp

/-- **The serialized document means what the tree means**: read by Draft 6 (with the library's reading of the
    required-with-default deviation) it refines the tree's verdicts, for every tree in normal form whose
    serialization meets the `Good` conditions. -/
theorem ser_ok (env : Env) (cx : PCtx) : ∀ (e : Elem), NF cx e → (flagsOf cx (toSchema e)).all = true →
    ERel env e (D6.valid env ℓ₀ (toSchema e)) := by
  intro e h hg
  have := parse_ok env cx (toSchema e) hg
  rwa [parse_toSchema cx e h] at this
theorem serOpt_ok (env : Env) (cx : PCtx) : ∀ (o : Option Elem), NFO cx o → (flagsOpt cx (tsOpt o)).all = true →
    OptRel (ERel env) o (D6.vOpt env ℓ₀ (tsOpt o)) := by
  intro o h hg
  have := parseOpt_ok env cx (tsOpt o) hg
  rwa [parseOpt_ts cx o h] at this
theorem serHead_ok (env : Env) (cx : PCtx) : ∀ (l : List Elem), NFL cx l → (flagsOpt cx (tsList l).head?).all = true →
    OptRel (ERel env) l.head? (D6.vOpt env ℓ₀ (tsList l).head?) := by
  intro l h hg
  have := parseOpt_ok env cx (tsList l).head? hg
  rwa [parseOpt_head, parseList_ts cx l h] at this
theorem serList_ok (env : Env) (cx : PCtx) : ∀ (l : List Elem), NFL cx l → (flagsList cx (tsList l)).all = true →
    All2 (ERel env) l (D6.vList env ℓ₀ (tsList l)) := by
  intro l h hg
  have := parseList_ok env cx (tsList l) hg
  rwa [parseList_ts cx l h] at this
theorem serProps_ok (env : Env) (cx : PCtx) : ∀ (l : List (Key × Elem)), NFK cx l → (flagsNamed cx (tsProps l)).all = true →
    All2 (fun (a : String × Elem) (b : String × Bool × D6.VF) =>
        a.1 = b.1 ∧ ERel env a.2 b.2.2 ∧ b.2.1 = a.2.kw.default.isSome)
      (l.map fun p => (p.1.src, p.2)) (D6.vProps env ℓ₀ (tsProps l)) := by
  intro l h hg
  have := parseProps_ok env cx (tsProps l) hg (tsProps_faithful cx l h)
  rwa [parseProps_ts cx l h] at this
theorem serPats_ok (env : Env) (cx : PCtx) : ∀ (l : List (Key × Elem)), NFK cx l → (flagsNamed cx (tsPats l)).all = true →
    All2 (fun (a : String × Elem) (b : String × D6.VF) => a.1 = b.1 ∧ ERel env a.2 b.2)
      (l.map fun p => (p.1.name, p.2)) (D6.vNamed env ℓ₀ (tsPats l)) := by
  intro l h hg
  have := parseNamed_ok env cx (tsPats l) hg
  rwa [parsePats_ts cx l h] at this
theorem serDeps_ok (env : Env) (cx : PCtx) : ∀ (l : List (Key × Elem)), NFK cx l → (flagsDeps cx (tsDeps l)).all = true →
    All2 (fun (a : Key × Elem) (b : Key × D6.VF) => a.1 = b.1 ∧ ERel env a.2 b.2) l (D6.vDeps env ℓ₀ (tsDeps l)) := by
  intro l h hg
  have := parseDeps_ok env cx (tsDeps l) hg
  rwa [parseDeps_ts cx l h] at this

end Statham
