/-
  The fuel of the orderer model's depth-first search (`reach`) is enough: every direct dependency of a class is among
  the descendants `descendantsOf` computes for it.  (Used by C11 / C02: "declared after every class it depends on" is
  not vacuous.)
-/
import StathamModel.Orderer
namespace Statham

/-- edge lists are duplicate-free and stay inside a finite universe `U` -/
structure Bounded (g : ClassGraph) (U : List String) : Prop where
  nodup : ∀ n, (g.edges n).Nodup
  inside : ∀ n, g.edges n ⊆ U

theorem reach_keeps_seen (g : ClassGraph) : ∀ (fuel : Nat) (todo seen : List String), seen ⊆ reach g fuel todo seen
  | 0, _, seen => by intro x hx; simpa [reach] using hx
  | fuel + 1, [], seen => by intro x hx; simpa [reach] using hx
  | fuel + 1, n :: todo, seen => by
    intro x hx
    rw [reach]
    split
    · exact reach_keeps_seen g fuel todo seen hx
    · exact reach_keeps_seen g fuel _ _ (List.mem_append_left _ hx)

/-- the arithmetic of an expansion step in `reach_complete`: one node leaves the unseen ones (worth `L`), at most `L`
    entries join `todo` -/
theorem reach_measure_step {L s e t fuel : Nat} (hs : s + 1 ≤ L) (he : e ≤ L) (hf : t + 1 + (L - s) * L ≤ fuel + 1) :
    e + t + (L - (s + 1)) * L ≤ fuel := by
  have hk : L - s = (L - (s + 1)) + 1 := by omega
  rw [hk, Nat.succ_mul] at hf
  omega

/-- The potential `|todo| + (|U| − |seen|)·|U|` drops at every step: a skip removes one `todo` entry; an expansion adds at
    most `|U|` entries (edge lists are duplicate-free inside `U`) and moves one node into `seen`. -/
theorem reach_complete (g : ClassGraph) (U : List String) (hb : Bounded g U) :
    ∀ (fuel : Nat) (todo seen : List String), seen.Nodup → seen ⊆ U → todo ⊆ U →
      todo.length + (U.length - seen.length) * U.length ≤ fuel → ∀ x ∈ todo, x ∈ reach g fuel todo seen
  | 0, todo, seen, _, _, _, hf => by
    intro x hx
    have : todo.length = 0 := by omega
    rw [List.length_eq_zero_iff] at this
    rw [this] at hx; cases hx
  | fuel + 1, [], seen, _, _, _, _ => by intro x hx; cases hx
  | fuel + 1, n :: todo, seen, hn, hs, ht, hf => by
    intro x hx
    rw [reach]
    have hnU : n ∈ U := ht (List.mem_cons_self ..)
    have htU : todo ⊆ U := fun y hy => ht (List.mem_cons_of_mem _ hy)
    by_cases hc : seen.contains n = true
    · simp only [hc, if_true]
      rcases List.mem_cons.mp hx with rfl | hx
      · exact reach_keeps_seen g fuel todo seen (by simpa using hc)
      · refine reach_complete g U hb fuel todo seen hn hs htU ?_ x hx
        simp only [List.length_cons] at hf
        omega
    · simp only [hc, Bool.false_eq_true, if_false]
      have hnot : n ∉ seen := by simpa using hc
      have hn' : (seen ++ [n]).Nodup := by
        refine List.nodup_append.mpr ⟨hn, by simp, fun a ha b hb' e => hnot ?_⟩
        rwa [← List.mem_singleton.mp hb', ← e]
      have hs' : seen ++ [n] ⊆ U := List.append_subset.mpr ⟨hs, List.cons_subset.mpr ⟨hnU, List.nil_subset _⟩⟩
      have hlen : seen.length + 1 ≤ U.length := by simpa using List.Nodup.length_le_of_subset hn' hs'
      have hedges : (g.edges n).length ≤ U.length := List.Nodup.length_le_of_subset (hb.nodup n) (hb.inside n)
      have ht' : g.edges n ++ todo ⊆ U := List.append_subset.mpr ⟨hb.inside n, htU⟩
      rcases List.mem_cons.mp hx with rfl | hx
      · exact reach_keeps_seen g fuel _ _ (List.mem_append_right _ (List.mem_singleton.mpr rfl))
      · refine reach_complete g U hb fuel _ _ hn' hs' ht' ?_ x (List.mem_append_right _ hx)
        rw [List.length_append, List.length_append, List.length_singleton]
        exact reach_measure_step hlen hedges (by simpa using hf)

theorem descendantsOf_direct (g : ClassGraph) (hb : Bounded g g.order) (n x : String) (hx : x ∈ g.edges n) :
    x ∈ descendantsOf g n := by
  unfold descendantsOf
  refine reach_complete g g.order hb _ _ [] List.nodup_nil (by intro y hy; cases hy) (hb.inside n) ?_ x hx
  have hedges : (g.edges n).length ≤ g.order.length := List.Nodup.length_le_of_subset (hb.nodup n) (hb.inside n)
  simp only [List.length_nil, Nat.sub_zero]
  have : g.order.length * (g.order.length + 1) = g.order.length * g.order.length + g.order.length := by
    rw [Nat.mul_add, Nat.mul_one]
  omega

end Statham
