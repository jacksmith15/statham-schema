/-
  The parser lands in its own normal form: `NF cx (parseE cx s)` for schemas whose nodes meet `nfNodeB`
  (`type` over the known names, clean literals, no collapsing names, no empty `required`/`properties`, class titles
  that format to themselves, no `additional…` schema that parses to `Nothing()`, no `default` beside composition
  members that parse to `Nothing()`).  With `parse_toSchema` this gives the C06 fixpoint from a hypothesis on the
  source alone.

  One node equation (`RT`) per shape the parser can build: `rt_plain` reads a node that is not a composition back
  through `Parts.Fixed`, `rt_compose` a composition node; the class's shape lemma and `baseKw_nodeSKw` give the
  keywords, and the property table is its own fixpoint (`class_rebuild` for classes).  Then `nf_base`,
  `nf_composition`, `nf_assembleK` and the induction over schemas.
-/
import StathamModel.ToSchema
import StathamModel.Lemmas.NodeFlags
import StathamModel.Lemmas.Mask
namespace Statham

/-- the node equation (second clause of `NFnode`): handed this node's own keywords and children, the parser builds the
    node again -/
def RT (cx : PCtx) (e : Elem) : Prop := assembleK cx (nodeSKw e.cls e.kw e.props) (nodeKids e) = e

/-- literals of a keyword record survive `_parse_literal` -/
def Kw.litFix (kw : Kw) : Prop :=
  kw.default.map parseLiteral = kw.default ∧ kw.const.map parseLiteral = kw.const ∧
  kw.enum.map (fun l => l.map parseLiteral) = kw.enum

theorem optAll_map_fix {α} {f : α → α} {p : α → Bool} (hf : ∀ a, p a = true → f a = a) :
    ∀ {o : Option α}, optAll o p = true → o.map f = o
  | none, _ => rfl
  | some a, h => congrArg some (hf a h)

theorem litFix_baseKw {k : SKw} (p : Parts) {d : Option JVal} (h : litCleanNode k = true)
    (hd : d.map parseLiteral = d) : (baseKw k p d).litFix := by
  unfold litCleanNode at h
  simp only [Bool.and_eq_true] at h
  have hc := optAll_map_fix parseLiteral_clean h.1.1
  have he := optAll_map_fix map_parseLiteral_clean h.1.2
  refine ⟨hd, ?_, ?_⟩
  · show (k.const.map parseLiteral).map parseLiteral = k.const.map parseLiteral
    rw [hc, hc]
  · show (k.enum.map (List.map parseLiteral)).map (List.map parseLiteral) = k.enum.map (List.map parseLiteral)
    rw [he, he]

theorem default_fix {k : SKw} (h : litCleanNode k = true) :
    (k.default.map parseLiteral).map parseLiteral = k.default.map parseLiteral := by
  unfold litCleanNode at h
  simp only [Bool.and_eq_true] at h
  have hd := optAll_map_fix parseLiteral_clean h.2
  rw [hd, hd]

theorem orderDeps_idem (l : List (Key × Elem)) : orderDeps (orderDeps l) = orderDeps l := by
  unfold orderDeps
  simp only [List.filter_append, List.filter_filter]
  have h2 : (l.filter fun d => d.1.names.isNone && d.1.names.isSome) = [] := by
    apply List.filter_eq_nil_iff.mpr
    intro d _
    cases d.1.names <;> simp
  have h3 : (l.filter fun d => d.1.names.isSome && d.1.names.isNone) = [] := by
    apply List.filter_eq_nil_iff.mpr
    intro d _
    cases d.1.names <;> simp
  simp [h2, h3]

/-! the fold by which `mergedRequired` appends the flagged names to the explicit list, skipping what is there -/

theorem foldl_dedupe_explicit (explicit : List String) : ∀ (l acc : List String), (∀ n ∈ l, explicit.contains n = true) →
    l.foldl (fun acc n => if explicit.contains n || acc.contains n then acc else acc ++ [n]) acc = acc
  | [], _, _ => rfl
  | x :: xs, acc, h => by
    simp only [List.foldl_cons, h x (List.mem_cons_self ..), Bool.true_or, if_true]
    exact foldl_dedupe_explicit explicit xs acc fun n hn => h n (List.mem_cons_of_mem _ hn)

theorem foldl_dedupe_distinct (explicit l : List String) (hd : distinct l = true) (he : ∀ n ∈ l, explicit.contains n = false) :
    ∀ (acc : List String), (∀ n ∈ l, n ∉ acc) →
      l.foldl (fun acc n => if explicit.contains n || acc.contains n then acc else acc ++ [n]) acc = acc ++ l := by
  induction l with
  | nil => intro acc _; simp
  | cons x xs ih =>
    intro acc h
    simp only [distinct_cons] at hd
    have hx : acc.contains x = false := by simpa using h x (List.mem_cons_self ..)
    simp only [List.foldl_cons, he x (List.mem_cons_self ..), Bool.false_or, hx, Bool.false_eq_true, if_false]
    rw [ih hd.2 (fun n hn => he n (List.mem_cons_of_mem _ hn))]
    · simp
    · intro n hn hmem
      rcases List.mem_append.mp hmem with hm | hm
      · exact h n (List.mem_cons_of_mem _ hn) hm
      · simp only [List.mem_singleton] at hm
        subst hm
        exact hd.1 hn

theorem mergedRequired_explicit (kw : Kw) (props : List (Key × JVal))
    (h : ∀ p ∈ props, p.1.required = true → (kw.required.getD []).contains p.1.src = true) :
    mergedRequired kw props = kw.required.getD [] := by
  unfold mergedRequired
  simp only
  rw [foldl_dedupe_explicit, List.append_nil]
  intro n hn
  obtain ⟨p, hp, rfl⟩ := List.mem_map.mp hn
  exact h p (List.mem_filter.mp hp).1 (List.mem_filter.mp hp).2

/-- the conditions on one schema node under which the parser's result is in normal form -/
structure NodeNF (cx : PCtx) (k : SKw) (kids : Kids) : Prop where
  lit : litCleanNode k = true
  -- `serCore` deletes an empty `required` and omits an empty `properties`: a source carrying either cannot come back
  reqNe : k.required ≠ some []
  hasProps : k.hasProps = !kids.props.isEmpty
  names : distinct (kids.props.map (·.1)) = true
  inj : InjOn cx (kids.props.map (·.1) ++ k.required.getD [])
  nonempty : ∀ n ∈ kids.props.map (·.1) ++ k.required.getD [], n ≠ ""
  reqD : distinct (k.required.getD []) = true
  addI : kids.addItems.1.isSome = true → kids.addItems.2 = true
  addP : kids.addProps.1.isSome = true → kids.addProps.2 = true

theorem addlKid_eta {a : Option Elem} {b : Bool} (h : a.isSome = true → b = true) : addlKid a b = (a, b) := by
  cases a with
  | none => rfl
  | some e => rw [h rfl]; rfl

theorem map_src_mkKey (cx : PCtx) (req : List String) (l : List (String × Elem)) (h : ∀ n ∈ l.map (·.1), n ≠ "") :
    (l.map fun kv => (mkKey cx req kv.1, kv.2)).map (fun p => (p.1.src, p.2)) = l := by
  rw [List.map_map]
  refine (List.map_congr_left fun kv hkv => ?_).trans (List.map_id l)
  show ((mkKey cx req kv.1).src, kv.2) = kv
  rw [src_mkKey cx req kv.1 (h kv.1 (List.mem_map.mpr ⟨kv, hkv, rfl⟩))]

theorem map_pat_name (l : List (String × Elem)) :
    (l.map fun kv => (({ name := kv.1 } : Key), kv.2)).map (fun p => (p.1.name, p.2)) = l :=
  (List.map_map ..).trans (List.map_id l)

theorem props_of_nodeNF {cx : PCtx} {k : SKw} {kids : Kids} (N : NodeNF cx k kids) :
    (partsOf cx k kids).props = kids.props.map fun kv => (mkKey cx (k.required.getD []) kv.1, kv.2) :=
  buildProps_map cx _ _ N.names fun a ha b hb => N.inj a (List.mem_append_left _ ha) b (List.mem_append_left _ hb)

theorem emitted_getD {o : Option (List String)} (h : o ≠ some []) :
    (if (o.getD []).isEmpty then none else some (o.getD [])) = o := by
  cases o with
  | none => rfl
  | some l =>
    cases l with
    | nil => exact absurd rfl h
    | cons x xs => rfl

theorem emittedRequired_untyped {cx : PCtx} {k : SKw} {kids : Kids} (N : NodeNF cx k kids) (kw : Kw)
    (hr : kw.required = k.required) : emittedRequired kw (partsOf cx k kids).props = k.required := by
  rw [props_of_nodeNF N]
  unfold emittedRequired
  -- the keys were flagged from `k.required`, so merging them into it adds nothing
  have hm : mergedRequired kw ((kids.props.map fun kv => (mkKey cx (k.required.getD []) kv.1, kv.2)).map fun p => (p.1, JVal.null)) =
      kw.required.getD [] := by
    apply mergedRequired_explicit
    intro p hp hreq
    simp only [List.map_map, List.mem_map, Function.comp_apply] at hp
    obtain ⟨kv, hkv, rfl⟩ := hp
    rw [hr, show (mkKey cx (k.required.getD []) kv.1).src = kv.1 from
      src_mkKey cx _ _ (N.nonempty kv.1 (List.mem_append_left _ (List.mem_map.mpr ⟨kv, hkv, rfl⟩)))]
    exact hreq
  simp only [hm, ite_self, hr]
  exact emitted_getD N.reqNe

/-- what the parser reads back from the keywords the serializer wrote -/
theorem baseKw_nodeSKw (c : Cls) (kw : Kw) (props : List (Key × Elem)) (p' : Parts) (d : Option JVal) (hl : kw.litFix) :
    baseKw (nodeSKw c kw props) p' d =
      { kw with default := d, addItemsB := p'.addItemsB, addPropsB := p'.addPropsB,
                required := emittedRequired kw props, hasProps := kw.hasProps && !props.isEmpty } := by
  obtain ⟨_, h2, h3⟩ := hl
  -- `nodeSKw` writes `uniqueItems` as `if … then some true else none`, which reduces under `.getD false` only by cases
  cases hu : kw.uniqueItems <;> simp [baseKw, nodeSKw, h2, h3, hu]

/-- parts that `partsOf ∘ nodeKids` gives back as they are (the property table aside) -/
structure Parts.Fixed (p : Parts) : Prop where
  addI : addlKid p.addItems p.addItemsB = (p.addItems, p.addItemsB)
  addP : addlKid p.addProps p.addPropsB = (p.addProps, p.addPropsB)
  pats : (p.patProps.map fun q => (q.1.name, q.2)).map (fun kv => (({ name := kv.1 } : Key), kv.2)) = p.patProps
  deps : orderDeps p.deps = p.deps

theorem partsOf_fixed {cx : PCtx} {k : SKw} {kids : Kids} (N : NodeNF cx k kids) : (partsOf cx k kids).Fixed :=
  ⟨addlKid_eta N.addI, addlKid_eta N.addP, congrArg _ (map_pat_name _), orderDeps_idem _⟩

/-- the node equation of a node that is not a composition: the parser is handed the node's own keywords and parts again,
    with the property table under its JSON names -/
theorem rt_plain (cx : PCtx) {p : Parts} (hp : p.Fixed) (c : Cls) (kw : Kw) (props : List (Key × Elem))
    (hc : isComposition c = false) (hl : kw.litFix) (hI : kw.addItemsB = p.addItemsB) (hP : kw.addPropsB = p.addPropsB)
    (h : assembleBase cx (nodeSKw c kw props)
        { p with props := buildProps cx ((emittedRequired kw props).getD []) (props.map fun q => (q.1.src, q.2)) } kw.default =
      .mk c kw p.items p.addItems p.contains props p.patProps p.addProps p.propNames p.deps []) :
    RT cx (.mk c kw p.items p.addItems p.contains props p.patProps p.addProps p.propNames p.deps []) := by
  have hno : hasComposition (nodeSKw c kw props) (notFor c ([] : List Elem)) = false := by
    simp only [isComposition, Bool.or_eq_false_iff] at hc
    simp [hasComposition, nodeSKw, notFor, hc]
  unfold RT assembleK assemble
  simp only [Elem.cls, Elem.kw, Elem.props, nodeKids, Elem.elements, hno]
  show assembleBase cx (nodeSKw c kw props)
    { items := p.items, addItems := (addlKid p.addItems kw.addItemsB).1, addItemsB := (addlKid p.addItems kw.addItemsB).2,
      contains := p.contains, props := _,
      patProps := (p.patProps.map fun q => (q.1.name, q.2)).map fun kv => ({ name := kv.1 }, kv.2),
      addProps := (addlKid p.addProps kw.addPropsB).1, addPropsB := (addlKid p.addProps kw.addPropsB).2,
      propNames := p.propNames, deps := orderDeps p.deps } (kw.default.map parseLiteral) = _
  rw [hI, hP, hp.addI, hp.addP, hp.pats, hp.deps, hl.1]
  exact h

theorem litFix_filterKw (al : List String) {kw : Kw} (h : kw.litFix) : (filterKw al kw).litFix :=
  ⟨keep_fix h.1 rfl al _, keep_fix h.2.1 rfl al _, keep_fix h.2.2 rfl al _⟩

theorem rt_leaf (cx : PCtx) {t : String} {c : Cls} {al : List String} (L : LeafSig t c al) (kw : Kw) (p : Parts)
    (hl : kw.litFix) : RT cx (mkElem c al kw p) := by
  have hl' := litFix_filterKw al hl
  rw [mkElem_leaf L.noKids]
  refine rt_plain cx (p := { addItemsB := (filterKw al kw).addItemsB, addPropsB := (filterKw al kw).addPropsB })
    ⟨rfl, rfl, rfl, rfl⟩ c _ [] L.plain hl' rfl rfl ?_
  rw [assembleBase_single (k := nodeSKw c _ []) L.type, mkTyped_leaf L, baseKw_nodeSKw _ _ _ _ _ hl', mkElem_leaf L.noKids,
    filterKw_required_hasProps L.noRequired L.noProps, filterKw_idem]
  rfl

theorem rt_string (cx : PCtx) (k : SKw) (p : Parts) (d : Option JVal) (hl : (baseKw k p d).litFix) :
    RT cx (mkElem .string (Gen.Param.names Gen.sigString) (baseKw k p d) p) := rt_leaf cx leafSig_string _ p hl

theorem rt_integer (cx : PCtx) (k : SKw) (p : Parts) (d : Option JVal) (hl : (baseKw k p d).litFix) :
    RT cx (mkElem .integer (Gen.Param.names Gen.sigNumeric) (baseKw k p d) p) := rt_leaf cx leafSig_integer _ p hl

theorem rt_number (cx : PCtx) (k : SKw) (p : Parts) (d : Option JVal) (hl : (baseKw k p d).litFix) :
    RT cx (mkElem .number (Gen.Param.names Gen.sigNumeric) (baseKw k p d) p) := rt_leaf cx leafSig_number _ p hl

theorem rt_boolean (cx : PCtx) (k : SKw) (p : Parts) (d : Option JVal) (hl : (baseKw k p d).litFix) :
    RT cx (mkElem .boolean (Gen.Param.names Gen.sigBoolean) (baseKw k p d) p) := rt_leaf cx leafSig_boolean _ p hl

theorem rt_null (cx : PCtx) (k : SKw) (p : Parts) (d : Option JVal) (hl : (baseKw k p d).litFix) :
    RT cx (mkElem .null (Gen.Param.names Gen.sigNull) (baseKw k p d) p) := rt_leaf cx leafSig_null _ p hl

theorem rt_untyped (cx : PCtx) (k : SKw) (kids : Kids) (d : Option JVal) (N : NodeNF cx k kids)
    (hd : d.map parseLiteral = d) :
    RT cx (mkElem .element (Gen.Param.names Gen.sigElement) (baseKw k (partsOf cx k kids) d) (partsOf cx k kids)) := by
  have hl := litFix_baseKw (partsOf cx k kids) N.lit hd
  have hp := props_of_nodeNF N
  have her : emittedRequired (baseKw k (partsOf cx k kids) d) (partsOf cx k kids).props = k.required :=
    emittedRequired_untyped N _ rfl
  have hsrc : (partsOf cx k kids).props.map (fun p => (p.1.src, p.2)) = kids.props := by
    rw [hp]; exact map_src_mkKey cx _ _ fun n hn => N.nonempty n (List.mem_append_left _ hn)
  have hhp : ((baseKw k (partsOf cx k kids) d).hasProps && !(partsOf cx k kids).props.isEmpty) = k.hasProps := by
    show (k.hasProps && _) = _
    rw [hp, N.hasProps]; cases kids.props <;> rfl
  rw [mkElem_element]
  refine rt_plain cx (partsOf_fixed N) .element _ _ rfl hl rfl rfl ?_
  rw [assembleBase_none (k := nodeSKw .element _ _) rfl, mkElem_element, baseKw_nodeSKw _ _ _ _ _ hl, her, hhp, hsrc]
  rfl

theorem arrKw_litFix {kw : Kw} (ik : ItemsKind) (h : kw.litFix) : (arrKw kw ik).litFix := h

theorem typeSpecOf_array : typeSpecOf .array = .single "array" := by decide

theorem rt_array (cx : PCtx) (kw : Kw) (ik : ItemsKind) (items : List Elem) (addI : Option Elem × Bool) (cont : Option Elem)
    (hl : kw.litFix) (hik : ik ≠ .none) (hb : kw.addItemsB = addI.2) (hw : addI.1.isSome = true → addI.2 = true) :
    RT cx (.mk .array (arrKw kw ik) items addI.1 cont [] [] none none [] []) := by
  refine rt_plain cx (p := { items := items, addItems := addI.1, addItemsB := addI.2, contains := cont })
    ⟨addlKid_eta hw, rfl, rfl, rfl⟩ .array _ [] rfl (arrKw_litFix ik hl) hb rfl ?_
  rw [assembleBase_single (k := nodeSKw .array _ []) typeSpecOf_array, mkTyped_array,
    baseKw_nodeSKw _ _ _ _ _ (arrKw_litFix ik hl), mkArray_some _ _ hik]
  simp only [arrKw, hb]

theorem arrKw_baseKw_addItemsB (k : SKw) (p : Parts) (d : Option JVal) : (baseKw k p d).addItemsB = p.addItemsB := rfl

/-- the keywords `_parse_object` keeps -/
def objKw (kw : Kw) : Kw :=
  { default := kw.default, const := kw.const, enum := kw.enum, hasProps := true,
    hasPatProps := kw.hasPatProps, addPropsB := kw.addPropsB, minProperties := kw.minProperties,
    maxProperties := kw.maxProperties, hasDeps := kw.hasDeps, description := kw.description }

theorem mkObject_objKw (cx : PCtx) (k : SKw) (kw : Kw) (p : Parts) :
    mkObject cx k kw p =
      .mk (.object (className k)) (objKw kw) [] none none (withSynthetic cx (k.required.getD []) p.props) p.patProps
        p.addProps p.propNames p.deps [] := mkObject_eq cx k kw p

/-- declared names that are required, then the undeclared required names: the `required` list the serializer writes for
    a class -/
def classRequired (req : List String) (ps : List (String × Elem)) : List String :=
  (ps.map (·.1)).filter (fun n => req.contains n) ++ synthNames req ps

/-- the property table of a class, as pairs of JSON name and element -/
def classPairs (req : List String) (ps : List (String × Elem)) : List (String × Elem) :=
  ps ++ (synthNames req ps).map fun n => (n, Elem.trivial)

theorem distinct_classRequired {req : List String} {ps : List (String × Elem)}
    (hn : distinct (ps.map (·.1)) = true) (hr : distinct req = true) : distinct (classRequired req ps) = true := by
  unfold classRequired
  apply distinct_append (distinct_filter _ hn) (distinct_filter _ hr)
  intro x hx hy
  exact (mem_synthNames.mp hy).2 (List.mem_filter.mp hx).1

theorem classPairs_names (req : List String) (ps : List (String × Elem)) :
    (classPairs req ps).map (·.1) = ps.map (·.1) ++ synthNames req ps := by
  simp [classPairs, List.map_map, Function.comp_def]

theorem classProps_srcs (cx : PCtx) (req : List String) (ps : List (String × Elem))
    (hne : ∀ n ∈ ps.map (·.1) ++ req, n ≠ "") :
    (classProps cx req ps).map (fun p => (p.1.src, p.2)) = classPairs req ps := by
  unfold classProps classPairs
  rw [List.map_append, map_src_mkKey cx req ps (fun n hn => hne n (List.mem_append_left _ hn))]
  congr 1
  rw [List.map_map]
  apply List.map_congr_left
  intro n hn
  simp only [Function.comp_apply]
  rw [src_synthKey cx n (hne n (List.mem_append_right _ (mem_synthNames.mp hn).1))]

theorem mem_classRequired {req : List String} {ps : List (String × Elem)} {n : String} :
    n ∈ classRequired req ps ↔ n ∈ req := by
  unfold classRequired
  simp only [List.mem_append, List.mem_filter, List.contains_iff_mem, mem_synthNames]
  by_cases hn : n ∈ ps.map (·.1) <;> simp [hn]

theorem mem_classPairs {req : List String} {ps : List (String × Elem)} {n : String} :
    n ∈ (classPairs req ps).map (·.1) ↔ n ∈ ps.map (·.1) ∨ n ∈ req := by
  rw [classPairs_names, List.mem_append, mem_synthNames]
  by_cases hn : n ∈ ps.map (·.1) <;> simp [hn]

theorem contains_classRequired (req : List String) (ps : List (String × Elem)) (n : String) :
    (classRequired req ps).contains n = req.contains n :=
  Bool.eq_iff_iff.mpr (by simp only [List.contains_iff_mem, mem_classRequired])

theorem classPairs_mkKey (cx : PCtx) (req : List String) (ps : List (String × Elem)) :
    (classPairs req ps).map (fun kv => (mkKey cx (classRequired req ps) kv.1, kv.2)) = classProps cx req ps := by
  unfold classPairs classProps
  rw [List.map_append, List.map_map]
  congr 1
  · simp only [mkKey, contains_classRequired]
  · apply List.map_congr_left
    intro n hn
    simp only [Function.comp_apply, mkKey, synthKey, contains_classRequired, List.contains_iff_mem.mpr (mem_synthNames.mp hn).1]

theorem distinct_classPairs {req : List String} {ps : List (String × Elem)}
    (hn : distinct (ps.map (·.1)) = true) (hr : distinct req = true) : distinct ((classPairs req ps).map (·.1)) = true := by
  rw [classPairs_names]
  apply distinct_append hn (distinct_filter _ hr)
  intro x hx hy
  exact (mem_synthNames.mp hy).2 hx

/-- the written `required` list asks for no further synthetic property -/
theorem synthNames_classRequired (req : List String) (ps : List (String × Elem)) :
    synthNames (classRequired req ps) (classPairs req ps) = [] := by
  unfold synthNames
  apply List.filter_eq_nil_iff.mpr
  intro n hn
  simpa using mem_classPairs.mpr (Or.inr (mem_classRequired.mp hn))

/-- parsing the written class again: the same property table, and nothing further to synthesise -/
theorem class_rebuild (cx : PCtx) (req : List String) (ps : List (String × Elem))
    (hn : distinct (ps.map (·.1)) = true) (hr : distinct req = true) (hinj : InjOn cx (ps.map (·.1) ++ req)) :
    withSynthetic cx (classRequired req ps) (buildProps cx (classRequired req ps) (classPairs req ps)) = classProps cx req ps := by
  have hsub : ∀ a ∈ (classPairs req ps).map (·.1) ++ classRequired req ps, a ∈ ps.map (·.1) ++ req := fun a ha =>
    (List.mem_append.mp ha).elim (fun h => List.mem_append.mpr (mem_classPairs.mp h))
      fun h => List.mem_append_right _ (mem_classRequired.mp h)
  rw [withSynthetic_buildProps cx _ _ (distinct_classPairs hn hr) (distinct_classRequired hn hr)
    fun a ha b hb => hinj a (hsub a ha) b (hsub b hb)]
  rw [classProps, synthNames_classRequired, List.map_nil, List.append_nil, classPairs_mkKey]

theorem flagged_null (l : List (Key × Elem)) :
    ((l.map fun p => (p.1, JVal.null)).filter fun p => p.1.required).map (fun p => p.1.src) =
      (l.filter fun p => p.1.required).map (fun p => p.1.src) := by
  rw [List.filter_map, List.map_map]; rfl

theorem flagged_declared (cx : PCtx) (req : List String) (ps : List (String × Elem)) (hne : ∀ n ∈ ps.map (·.1), n ≠ "") :
    ((ps.map fun kv => (mkKey cx req kv.1, kv.2)).filter fun p => p.1.required).map (fun p => p.1.src) =
      (ps.map (·.1)).filter (fun n => req.contains n) := by
  rw [List.filter_map, List.map_map, List.filter_map]
  exact List.map_congr_left fun kv hkv =>
    src_mkKey cx req kv.1 (hne kv.1 (List.mem_map.mpr ⟨kv, (List.mem_filter.mp hkv).1, rfl⟩))

theorem flagged_synth (cx : PCtx) (l : List String) (hne : ∀ n ∈ l, n ≠ "") :
    ((l.map fun n => (synthKey cx n, Elem.trivial)).filter fun p => p.1.required).map (fun p => p.1.src) = l := by
  have hall : ∀ p ∈ l.map (fun n => (synthKey cx n, Elem.trivial)), p.1.required = true := by
    intro p hp
    obtain ⟨n, _, rfl⟩ := List.mem_map.mp hp
    rfl
  rw [List.filter_eq_self.mpr hall, List.map_map]
  exact (List.map_congr_left fun n hn => src_synthKey cx n (hne n hn)).trans (List.map_id l)

/-- the names the class table flags as required, in table order -/
theorem flagged_classProps (cx : PCtx) (req : List String) (ps : List (String × Elem))
    (hne : ∀ n ∈ ps.map (·.1) ++ req, n ≠ "") :
    (((classProps cx req ps).map fun p => (p.1, JVal.null)).filter fun p => p.1.required).map (fun p => p.1.src) =
      classRequired req ps := by
  rw [flagged_null]
  unfold classProps classRequired
  rw [List.filter_append, List.map_append, flagged_declared cx req ps (fun n hn => hne n (List.mem_append_left _ hn)),
    flagged_synth cx _ (fun n hn => hne n (List.mem_append_right _ (mem_synthNames.mp hn).1))]

theorem mergedRequired_class (cx : PCtx) (kw : Kw) (req : List String) (ps : List (String × Elem)) (hk : kw.required = none)
    (hn : distinct (ps.map (·.1)) = true) (hr : distinct req = true) (hne : ∀ n ∈ ps.map (·.1) ++ req, n ≠ "") :
    mergedRequired kw ((classProps cx req ps).map fun p => (p.1, JVal.null)) = classRequired req ps := by
  unfold mergedRequired
  simp only [hk, Option.getD_none, List.nil_append]
  rw [flagged_classProps cx req ps hne]
  -- the names are distinct and none is in the (empty) explicit list: the merge keeps them all
  have := foldl_dedupe_distinct [] (classRequired req ps) (distinct_classRequired hn hr) (fun _ _ => rfl) [] (fun _ _ => by simp)
  simpa using this

theorem emittedRequired_class (cx : PCtx) (kw : Kw) (req : List String) (ps : List (String × Elem)) (hk : kw.required = none)
    (hh : kw.hasProps = true)
    (hn : distinct (ps.map (·.1)) = true) (hr : distinct req = true) (hne : ∀ n ∈ ps.map (·.1) ++ req, n ≠ "") :
    (emittedRequired kw (classProps cx req ps)).getD [] = classRequired req ps := by
  have hm := mergedRequired_class cx kw req ps hk hn hr hne
  unfold emittedRequired
  cases hc : (classProps cx req ps).isEmpty
  · simp only [hh, hm, Bool.not_false, Bool.and_self, if_true]
    cases classRequired req ps <;> rfl
  -- no property at all: the merged list is computed from nothing
  · rw [List.isEmpty_iff.mp hc] at hm
    rw [← hm]
    simp [mergedRequired, hk]

theorem objKw_idem (kw : Kw) : objKw (objKw kw) = objKw kw := rfl

theorem withSynthetic_partsOf {cx : PCtx} {k : SKw} {kids : Kids} (N : NodeNF cx k kids) :
    withSynthetic cx (k.required.getD []) (partsOf cx k kids).props = classProps cx (k.required.getD []) kids.props :=
  withSynthetic_buildProps cx _ _ N.names N.reqD N.inj

theorem typeSpecOf_object (n : String) : typeSpecOf (.object n) = .single "object" := rfl

theorem nodeSKw_required (c : Cls) (kw : Kw) (props : List (Key × Elem)) :
    (nodeSKw c kw props).required = emittedRequired kw props := rfl

theorem className_nodeSKw (n : String) (kw : Kw) (props : List (Key × Elem)) :
    className (nodeSKw (.object n) kw props) = titleFormat n := rfl

theorem rt_object (cx : PCtx) (k : SKw) (kids : Kids) (d : Option JVal) (N : NodeNF cx k kids)
    (hd : d.map parseLiteral = d) (ht : titleFormat (className k) = className k) :
    RT cx (mkObject cx k (baseKw k (partsOf cx k kids) d) (partsOf cx k kids)) := by
  have hl : (objKw (baseKw k (partsOf cx k kids) d)).litFix := litFix_baseKw (partsOf cx k kids) N.lit hd
  have hreq : (emittedRequired (objKw (baseKw k (partsOf cx k kids) d)) (classProps cx (k.required.getD []) kids.props)).getD [] =
      classRequired (k.required.getD []) kids.props :=
    emittedRequired_class cx (objKw _) _ _ rfl rfl N.names N.reqD N.nonempty
  have hf := partsOf_fixed N
  rw [mkObject_objKw, withSynthetic_partsOf N]
  refine rt_plain cx (p := { partsOf cx k kids with items := [], addItems := none, addItemsB := true, contains := none })
    ⟨rfl, hf.addP, hf.pats, hf.deps⟩ (.object (className k)) _ _ rfl hl rfl rfl ?_
  rw [assembleBase_single (k := nodeSKw (.object _) _ _) (typeSpecOf_object (className k)), mkTyped_object, mkObject_objKw,
    baseKw_nodeSKw _ _ _ _ _ hl, className_nodeSKw, ht, nodeSKw_required, hreq, classProps_srcs cx _ _ N.nonempty,
    class_rebuild cx _ _ N.names N.reqD N.inj]
  rfl

theorem NF_intro {cx : PCtx} {c : Cls} {kw : Kw} {items : List Elem} {addI cont : Option Elem} {props pats : List (Key × Elem)}
    {addP pn : Option Elem} {deps : List (Key × Elem)} {els : List Elem}
    (hc : c ≠ .nothing) (hrt : RT cx (.mk c kw items addI cont props pats addP pn deps els))
    (nnI : notNothing addI) (nnP : notNothing addP)
    (h1 : NFL cx items) (h2 : NFO cx addI) (h3 : NFO cx cont) (h4 : NFK cx props) (h5 : NFK cx pats) (h6 : NFO cx addP)
    (h7 : NFO cx pn) (h8 : NFK cx deps) (h9 : NFL cx els) :
    NF cx (.mk c kw items addI cont props pats addP pn deps els) := by
  rw [NF]
  exact ⟨⟨fun h => absurd h hc, fun _ => hrt, nnI, nnP⟩, h1, h2, h3, h4, h5, h6, h7, h8, h9⟩

theorem NFK_of_forall {cx : PCtx} {l : List (Key × Elem)} (h : ∀ p ∈ l, NF cx p.2) : NFK cx l := by
  induction l with
  | nil => rw [NFK]; trivial
  | cons p r ih =>
    obtain ⟨k, e⟩ := p
    rw [NFK]
    exact ⟨h (k, e) (List.mem_cons_self ..), ih fun q hq => h q (List.mem_cons_of_mem _ hq)⟩

theorem NFL_of_forall {cx : PCtx} {l : List Elem} (h : ∀ e ∈ l, NF cx e) : NFL cx l := by
  induction l with
  | nil => rw [NFL]; trivial
  | cons e r ih =>
    rw [NFL]
    exact ⟨h e (List.mem_cons_self ..), ih fun q hq => h q (List.mem_cons_of_mem _ hq)⟩

theorem forall_of_NFL {cx : PCtx} {l : List Elem} (h : NFL cx l) : ∀ e ∈ l, NF cx e := by
  induction l with
  | nil => intro e he; cases he
  | cons x r ih =>
    rw [NFL] at h
    intro e he
    rcases List.mem_cons.mp he with rfl | he
    · exact h.1
    · exact ih h.2 e he

theorem nil_NFL (cx : PCtx) : NFL cx [] := by rw [NFL]; trivial
theorem nil_NFK (cx : PCtx) : NFK cx [] := by rw [NFK]; trivial
theorem none_NFO (cx : PCtx) : NFO cx none := by rw [NFO]; trivial

theorem NFL_single {cx : PCtx} {e : Elem} (h : NF cx e) : NFL cx [e] := by rw [NFL]; exact ⟨h, nil_NFL cx⟩

theorem NF_leaf {cx : PCtx} {c : Cls} {kw : Kw} (hc : c ≠ .nothing) (h : RT cx (Elem.leaf c kw)) : NF cx (Elem.leaf c kw) :=
  NF_intro hc h trivial trivial (nil_NFL cx) (none_NFO cx) (none_NFO cx) (nil_NFK cx) (nil_NFK cx) (none_NFO cx) (none_NFO cx)
    (nil_NFK cx) (nil_NFL cx)

theorem NF_compose {cx : PCtx} {c : Cls} {ms : List Elem} {d : Option JVal} (hc : c ≠ .nothing)
    (h : RT cx (Elem.compose c ms d)) (hm : NFL cx ms) : NF cx (Elem.compose c ms d) :=
  NF_intro hc h trivial trivial (nil_NFL cx) (none_NFO cx) (none_NFO cx) (nil_NFK cx) (nil_NFK cx) (none_NFO cx) (none_NFO cx)
    (nil_NFK cx) hm

/-- what the induction knows about the parsed children of a schema object -/
structure KidsNF (cx : PCtx) (kids : Kids) : Prop where
  items : NFL cx kids.items
  addItems : NFO cx kids.addItems.1
  contains : NFO cx kids.contains
  props : ∀ p ∈ kids.props, NF cx p.2
  patProps : ∀ p ∈ kids.patProps, NF cx p.2
  addProps : NFO cx kids.addProps.1
  propNames : NFO cx kids.propNames
  deps : ∀ p ∈ kids.deps, NF cx p.2
  anyOf : NFL cx kids.anyOf
  oneOf : NFL cx kids.oneOf
  allOf : NFL cx kids.allOf
  not : NFO cx kids.not
  nnI : notNothing kids.addItems.1
  nnP : notNothing kids.addProps.1

theorem NF_trivial (cx : PCtx) : NF cx Elem.trivial := by
  refine NF_leaf (by decide) ?_
  have N : NodeNF cx {} {} :=
    { lit := rfl
      reqNe := nofun
      hasProps := rfl
      names := rfl
      inj := fun a ha => by cases ha
      nonempty := fun n hn => by cases hn
      reqD := rfl
      addI := nofun
      addP := nofun }
  have := rt_untyped cx {} {} none N rfl
  rw [mkElem_element] at this
  exact this

theorem NFK_map {cx : PCtx} {α} (f : α → Key) {l : List (α × Elem)} (h : ∀ p ∈ l, NF cx p.2) :
    NFK cx (l.map fun kv => (f kv.1, kv.2)) :=
  NFK_of_forall fun p hp => by obtain ⟨kv, hkv, rfl⟩ := List.mem_map.mp hp; exact h kv hkv

theorem NFK_pats {cx : PCtx} {k : SKw} {kids : Kids} (K : KidsNF cx kids) : NFK cx (partsOf cx k kids).patProps :=
  NFK_map (fun n => { name := n }) K.patProps

theorem NFK_deps {cx : PCtx} {kids : Kids} (K : KidsNF cx kids) : NFK cx (orderDeps kids.deps) := by
  apply NFK_of_forall
  intro p hp
  unfold orderDeps at hp
  rcases List.mem_append.mp hp with h | h
  · exact K.deps p (List.mem_filter.mp h).1
  · exact K.deps p (List.mem_filter.mp h).1

theorem nf_untyped {cx : PCtx} {k : SKw} {kids : Kids} (d : Option JVal) (N : NodeNF cx k kids) (K : KidsNF cx kids)
    (hd : d.map parseLiteral = d) :
    NF cx (mkElem .element (Gen.Param.names Gen.sigElement) (baseKw k (partsOf cx k kids) d) (partsOf cx k kids)) := by
  have hrt := rt_untyped cx k kids d N hd
  rw [mkElem_element] at hrt ⊢
  refine NF_intro (by decide) hrt K.nnI K.nnP K.items K.addItems K.contains ?_ (NFK_pats K) K.addProps K.propNames (NFK_deps K) (nil_NFL cx)
  rw [props_of_nodeNF N]
  exact NFK_map _ K.props

theorem nf_leaf (cx : PCtx) {t : String} {c : Cls} {al : List String} (L : LeafSig t c al) (kw : Kw) (p : Parts)
    (hl : kw.litFix) : NF cx (mkElem c al kw p) := by
  have h := rt_leaf cx L kw p hl
  rw [mkElem_leaf L.noKids] at h ⊢
  exact NF_leaf L.cls.2 h

theorem nf_array {cx : PCtx} {k : SKw} {kids : Kids} (d : Option JVal) (N : NodeNF cx k kids) (K : KidsNF cx kids)
    (hd : d.map parseLiteral = d) :
    NF cx (mkArray (baseKw k (partsOf cx k kids) d) (partsOf cx k kids)) := by
  have key : ∀ ik items, ik ≠ .none → NFL cx items →
      NF cx (.mk .array (arrKw (baseKw k (partsOf cx k kids) d) ik) items kids.addItems.1 kids.contains [] [] none none [] []) :=
    fun ik items hik hi =>
      NF_intro (by decide) (rt_array cx _ ik items kids.addItems kids.contains (litFix_baseKw _ N.lit hd) hik rfl N.addI)
        K.nnI trivial hi K.addItems K.contains (nil_NFK cx) (nil_NFK cx) (none_NFO cx) (none_NFO cx) (nil_NFK cx) (nil_NFL cx)
  by_cases hik : (baseKw k (partsOf cx k kids) d).itemsKind = .none
  · rw [mkArray_none _ _ hik]; exact key .single _ (by decide) (NFL_single (NF_trivial cx))
  · rw [mkArray_some _ _ hik]; exact key _ _ hik K.items

theorem NFK_classProps {cx : PCtx} {kids : Kids} (K : KidsNF cx kids) (req : List String) :
    NFK cx (classProps cx req kids.props) := by
  apply NFK_of_forall
  intro p hp
  unfold classProps at hp
  rcases List.mem_append.mp hp with h | h
  · obtain ⟨kv, hkv, rfl⟩ := List.mem_map.mp h
    exact K.props kv hkv
  · obtain ⟨n, _, rfl⟩ := List.mem_map.mp h
    exact NF_trivial cx

theorem nf_object {cx : PCtx} {k : SKw} {kids : Kids} (d : Option JVal) (N : NodeNF cx k kids) (K : KidsNF cx kids)
    (hd : d.map parseLiteral = d) (ht : titleFormat (className k) = className k) :
    NF cx (mkObject cx k (baseKw k (partsOf cx k kids) d) (partsOf cx k kids)) := by
  have hrt := rt_object cx k kids d N hd ht
  rw [mkObject_objKw, withSynthetic_partsOf N] at hrt ⊢
  exact NF_intro (by simp) hrt trivial K.nnP (nil_NFL cx) (none_NFO cx) (none_NFO cx) (NFK_classProps K _) (NFK_pats K) K.addProps
    K.propNames (NFK_deps K) (nil_NFL cx)

theorem composeElements_two (c : Cls) (a b : Elem) (r : List Elem) : composeElements c (a :: b :: r) = Elem.compose c (a :: b :: r) := rfl

theorem isTrivial_of_cls {e : Elem} (h : e.cls ≠ .element) : e.isTrivial = false := by
  unfold Elem.isTrivial
  rw [beq_false_of_ne h]; rfl

theorem filter_cons_nontrivial {e : Elem} (h : e.cls ≠ .element) (l : List Elem) :
    (e :: l).filter (fun e => !e.isTrivial) = e :: l.filter (fun e => !e.isTrivial) :=
  List.filter_cons_of_pos (by rw [isTrivial_of_cls h]; rfl)

theorem filter_cons_trivial (l : List Elem) :
    (Elem.trivial :: l).filter (fun e => !e.isTrivial) = l.filter (fun e => !e.isTrivial) :=
  List.filter_cons_of_neg (by decide)

theorem finish_compose (c : Cls) (ms : List Elem) (d : Option JVal) (hc : isObjectCls c = false) :
    finishComposition (Elem.compose c ms) d = Elem.compose c ms d := by
  unfold finishComposition
  simp only [Elem.compose, Elem.cls, hc, Bool.false_eq_true, if_false]
  cases d <;> rfl

theorem filter_nontrivial_self (ms : List Elem) (h : ∀ m ∈ ms, m.isTrivial = false) :
    ms.filter (fun e => !e.isTrivial) = ms := by
  apply List.filter_eq_self.mpr
  intro m hm
  simp [h m hm]

/-- the node equation of a composition node says that `_parse_composition`, handed the members alone, collapses to the node -/
theorem rt_compose (cx : PCtx) (c : Cls) (ms : List Elem) (d : Option JVal) (hd : d.map parseLiteral = d)
    (hty : typeSpecOf c = .none) (hc : hasComposition (nodeSKw c { default := d } []) (notFor c ms) = true)
    (h : finishComposition (composeElements .allOf ((compositionMembers Elem.trivial (membersFor c .anyOf ms)
        (membersFor c .oneOf ms) (membersFor c .allOf ms) (notFor c ms)).filter fun e => !e.isTrivial)) d = Elem.compose c ms d) :
    RT cx (Elem.compose c ms d) := by
  show assemble cx (nodeSKw c { default := d } []) (partsOf cx (nodeSKw c { default := d } []) {})
    (membersFor c .anyOf ms) (membersFor c .oneOf ms) (membersFor c .allOf ms) (notFor c ms) = _
  unfold assemble
  simp only [hc, if_true]
  unfold assembleComposition
  have hb : assembleBase cx (nodeSKw c { default := d } []) (partsOf cx (nodeSKw c { default := d } []) {}) none = Elem.trivial := by
    rw [assembleBase_none (k := nodeSKw c _ []) hty, mkElem_element]; rfl
  rw [hb]
  show finishComposition _ (d.map parseLiteral) = _
  rw [hd, h]

/-! the member list `_parse_composition` sees when it reads a composition node back (lemmas of their own: the same
    `rfl` checked in place, under `finishComposition`, has the unifier unfold that first) -/

theorem members_anyOf (ms : List Elem) :
    compositionMembers Elem.trivial (membersFor .anyOf .anyOf ms) (membersFor .anyOf .oneOf ms) (membersFor .anyOf .allOf ms)
      (notFor .anyOf ms) = [Elem.trivial, Elem.trivial, composeElements .anyOf ms] := rfl

theorem members_oneOf (ms : List Elem) :
    compositionMembers Elem.trivial (membersFor .oneOf .anyOf ms) (membersFor .oneOf .oneOf ms) (membersFor .oneOf .allOf ms)
      (notFor .oneOf ms) = [Elem.trivial, composeElements .oneOf ms, Elem.trivial] := rfl

theorem members_allOf (ms : List Elem) :
    compositionMembers Elem.trivial (membersFor .allOf .anyOf ms) (membersFor .allOf .oneOf ms) (membersFor .allOf .allOf ms)
      (notFor .allOf ms) = [Elem.trivial] ++ ms ++ [Elem.trivial] ++ [Elem.trivial] ++ [] := rfl

/-- `Not(x, default=d)`, the node `_parse_composition` builds for `not` -/
def notNode (x : Elem) (d : Option JVal) : Elem := .mk .not { default := d } [] none none [] [] none none [] [x]

theorem notNode_eq (x : Elem) (d : Option JVal) : notNode x d = Elem.compose .not [x] d := rfl

theorem members_not (x : Elem) :
    compositionMembers Elem.trivial (membersFor .not .anyOf [x]) (membersFor .not .oneOf [x]) (membersFor .not .allOf [x])
      (notFor .not [x]) = [Elem.trivial, Elem.trivial, Elem.trivial, notNode x none] := rfl

theorem rt_anyOf (cx : PCtx) (a b : Elem) (r : List Elem) (d : Option JVal) (hd : d.map parseLiteral = d) :
    RT cx (Elem.compose .anyOf (a :: b :: r) d) := by
  refine rt_compose cx .anyOf _ d hd rfl rfl ?_
  rw [members_anyOf, filter_cons_trivial, filter_cons_trivial, composeElements_two,
    filter_cons_nontrivial (e := Elem.compose .anyOf _) (show Cls.anyOf ≠ .element by decide), List.filter_nil]
  exact finish_compose .anyOf _ d rfl

theorem rt_oneOf (cx : PCtx) (a b : Elem) (r : List Elem) (d : Option JVal) (hd : d.map parseLiteral = d) :
    RT cx (Elem.compose .oneOf (a :: b :: r) d) := by
  refine rt_compose cx .oneOf _ d hd rfl rfl ?_
  rw [members_oneOf, filter_cons_trivial, composeElements_two,
    filter_cons_nontrivial (e := Elem.compose .oneOf _) (show Cls.oneOf ≠ .element by decide), filter_cons_trivial, List.filter_nil]
  exact finish_compose .oneOf _ d rfl

theorem rt_allOf (cx : PCtx) (a b : Elem) (r : List Elem) (d : Option JVal) (hd : d.map parseLiteral = d)
    (hnt : ∀ m ∈ a :: b :: r, m.isTrivial = false) :
    RT cx (Elem.compose .allOf (a :: b :: r) d) := by
  refine rt_compose cx .allOf _ d hd rfl rfl ?_
  rw [members_allOf]
  simp only [List.filter_append, filter_nontrivial_self _ hnt, filter_cons_trivial, List.filter_nil, List.nil_append, List.append_nil]
  exact finish_compose .allOf _ d rfl

/-- an object class under `allOf` alone: the wrapper `AllOf(cls, default=…)` the parser builds to hold the default -/
theorem rt_allOf_single (cx : PCtx) (x : Elem) (d : Option JVal) (hd : d.map parseLiteral = d) (hx : isObjectCls x.cls = true) :
    RT cx (Elem.compose .allOf [x] d) := by
  have hxne : x.cls ≠ .element := by
    intro h; rw [h] at hx; cases hx
  refine rt_compose cx .allOf _ d hd rfl rfl ?_
  rw [members_allOf]
  simp only [List.filter_append, filter_cons_nontrivial hxne, filter_cons_trivial, List.filter_nil, List.nil_append, List.append_nil]
  unfold finishComposition
  simp only [composeElements, hx, if_true]

theorem rt_not (cx : PCtx) (x : Elem) (d : Option JVal) (hd : d.map parseLiteral = d) : RT cx (notNode x d) := by
  rw [notNode_eq]
  refine rt_compose cx .not [x] d hd rfl rfl ?_
  rw [members_not, filter_cons_trivial, filter_cons_trivial, filter_cons_trivial,
    filter_cons_nontrivial (e := notNode x none) (show Cls.not ≠ .element by decide), List.filter_nil, notNode_eq]
  exact finish_compose .not [x] d rfl

theorem withDefault_withDefault (e : Elem) (a b : Option JVal) : (e.withDefault a).withDefault b = e.withDefault b := by
  cases e; rfl

theorem withDefault_cls (e : Elem) (a : Option JVal) : (e.withDefault a).cls = e.cls := by
  cases e; rfl

theorem finish_setDefault (x : Elem) (d0 : Option JVal) (d : JVal) :
    finishComposition x (some d) = (finishComposition x d0).withDefault (some d) := by
  unfold finishComposition
  cases hx : isObjectCls x.cls
  · simp only [Bool.false_eq_true, if_false]
    cases d0 with
    | none => rfl
    | some d0 => simp only [withDefault_withDefault]
  · simp only [if_true]
    rfl

def SKw.setDefault (k : SKw) (d : JVal) : SKw := { k with default := some d }

/-- every type name is one the parser knows (an empty list is let through: `typeOK` without `ts ≠ []`).  The theorems
    DESIGN.md names (`assembleK_setDefault`, `NF_withDefault`, those of C07) state the `match` itself, to be read without
    this definition -/
def typesKnown (t : TypeSpec) : Prop :=
  match t with
  | .none => True
  | .single t => t ∈ knownTypes
  | .list ts => ∀ t ∈ ts, t ∈ knownTypes

theorem mkArray_withDefault (kw : Kw) (p : Parts) (d : Option JVal) :
    mkArray { kw with default := d } p = (mkArray kw p).withDefault d := by
  by_cases h : kw.itemsKind = .none
  · rw [mkArray_none kw p h, mkArray_none { kw with default := d } p h]; rfl
  · rw [mkArray_some kw p h, mkArray_some { kw with default := d } p h]; rfl

theorem mkObject_withDefault (cx : PCtx) (k : SKw) (kw : Kw) (p : Parts) (d : Option JVal) :
    mkObject cx k { kw with default := d } p = (mkObject cx k kw p).withDefault d := by
  rw [mkObject_objKw, mkObject_objKw]; rfl

/-- the `default` handed to `_parse_typed` becomes the `default` of what is built and goes nowhere else -/
theorem mkTyped_default_only (cx : PCtx) {t : String} (ht : t ∈ knownTypes) (k : SKw) (p : Parts) (d0 d : Option JVal) :
    mkTyped cx t k p d = (mkTyped cx t k p d0).withDefault d := by
  rcases knownTypes_cases ht with ⟨c, al, L⟩ | rfl | rfl
  · rw [mkTyped_leaf L, mkTyped_leaf L]; exact mkElem_withDefault c al (baseKw k p d0) p d L.default
  · rw [mkTyped_array, mkTyped_array]; exact mkArray_withDefault (baseKw k p d0) p d
  · rw [mkTyped_object, mkTyped_object]; exact mkObject_withDefault cx k (baseKw k p d0) p d

theorem assembleBase_default_only (cx : PCtx) (k : SKw) (p : Parts) (d0 d : Option JVal) (hty : typesKnown k.type) :
    assembleBase cx k p d = (assembleBase cx k p d0).withDefault d := by
  unfold assembleBase
  cases hk : k.type with
  | none => exact mkElem_withDefault _ _ (baseKw k p d0) p d (.head _)
  | single t => rw [hk] at hty; exact mkTyped_default_only cx hty k p d0 d
  | list ts =>
    rw [hk] at hty
    match ts, hty with
    | [], _ => rfl
    | [t], hty => exact mkTyped_default_only cx (hty t (List.mem_cons_self ..)) k p d0 d
    | _ :: _ :: _, _ => rfl

/-- a declared `default` is read through `_parse_literal` and becomes the `default` of what is built; nothing else of the
    result depends on it -/
theorem assembleK_default_only (cx : PCtx) (k : SKw) (kids : Kids) (d : JVal) (hty : typesKnown k.type) :
    assembleK cx (k.setDefault d) kids = (assembleK cx k kids).withDefault (some (parseLiteral d)) := by
  unfold assembleK assemble
  show (if hasComposition k kids.not then
      assembleComposition cx (k.setDefault d) (partsOf cx k kids) (some (parseLiteral d)) kids.anyOf kids.oneOf kids.allOf kids.not
    else assembleBase cx (k.setDefault d) (partsOf cx k kids) (some (parseLiteral d))) = _
  split
  · exact finish_setDefault _ _ _
  · exact assembleBase_default_only cx k _ _ _ hty

theorem assembleK_setDefault (cx : PCtx) (k : SKw) (kids : Kids) (d : JVal) (hd : parseLiteral d = d)
    (hty : match k.type with
      | .none => True
      | .single t => t ∈ knownTypes
      | .list ts => ∀ t ∈ ts, t ∈ knownTypes) :
    assembleK cx (k.setDefault d) kids = (assembleK cx k kids).withDefault (some d) := by
  rw [assembleK_default_only cx k kids d hty, hd]

theorem NF_withDefault {cx : PCtx} {x : Elem} (h : NF cx x) (hc : x.cls ≠ .nothing) (d : JVal) (hd : parseLiteral d = d)
    (hty : match typeSpecOf x.cls with
      | .none => True
      | .single t => t ∈ knownTypes
      | .list ts => ∀ t ∈ ts, t ∈ knownTypes) :
    NF cx (x.withDefault (some d)) := by
  cases x with
  | mk c kw items addI cont props pats addP pn deps els =>
    rw [NF] at h
    obtain ⟨hn, h1, h2, h3, h4, h5, h6, h7, h8, h9⟩ := h
    have hrt : RT cx (.mk c kw items addI cont props pats addP pn deps els) := hn.2.1 hc
    refine NF_intro hc ?_ hn.2.2.1 hn.2.2.2 h1 h2 h3 h4 h5 h6 h7 h8 h9
    unfold RT at hrt ⊢
    simp only [Elem.cls, Elem.kw, Elem.props] at hrt ⊢
    have hk : nodeSKw c { kw with default := some d } props = (nodeSKw c kw props).setDefault d := rfl
    have hkids : nodeKids (.mk c { kw with default := some d } items addI cont props pats addP pn deps els) =
        nodeKids (.mk c kw items addI cont props pats addP pn deps els) := rfl
    rw [hk, hkids, assembleK_setDefault cx _ _ d hd hty, hrt]
    rfl

theorem typeSpecOf_known (c : Cls) : typesKnown (typeSpecOf c) := by
  unfold typesKnown
  cases c <;> simp [typeSpecOf, typeNameOf, Gen.jsonTypeMapping, List.lookup, knownTypes]

theorem nf_typed {cx : PCtx} {k : SKw} {kids : Kids} (t : String) (d : Option JVal) (N : NodeNF cx k kids) (K : KidsNF cx kids)
    (hd : d.map parseLiteral = d) (ht : t ∈ knownTypes) (htitle : t = "object" → titleFormat (className k) = className k) :
    NF cx (mkTyped cx t k (partsOf cx k kids) d) := by
  rcases knownTypes_cases ht with ⟨c, al, L⟩ | rfl | rfl
  · rw [mkTyped_leaf L]; exact nf_leaf cx L _ _ (litFix_baseKw _ N.lit hd)
  · rw [mkTyped_array]; exact nf_array d N K hd
  · rw [mkTyped_object]; exact nf_object d N K hd (htitle rfl)

theorem mkArray_cls (kw : Kw) (p : Parts) : (mkArray kw p).cls = .array := by
  by_cases h : kw.itemsKind = .none
  · rw [mkArray_none kw p h]; rfl
  · rw [mkArray_some kw p h]; rfl

theorem mkTyped_cls_ne_nothing (cx : PCtx) (t : String) (k : SKw) (p : Parts) (d : Option JVal) (ht : t ∈ knownTypes) :
    (mkTyped cx t k p d).cls ≠ .nothing := by
  rcases knownTypes_cases ht with ⟨c, al, L⟩ | rfl | rfl
  · rw [mkTyped_leaf L]; exact L.cls.2
  · rw [mkTyped_array, mkArray_cls]; exact nofun
  · rw [mkTyped_object, mkObject_objKw]; exact nofun

/-- the serializer writes the *formatted* class name as `title` and the second parse formats it again
    (`className_nodeSKw`), so the name must be a fixpoint of `_title_format` -/
def titleOK (k : SKw) : Prop := typeHasObject k = true → titleFormat (className k) = className k

/-- `assembleBase` by the shape of `type`: what holds of the untyped element, of every typed one and of every `AnyOf` over
    two or more typed ones holds of what it builds, for a `type` over the known names -/
theorem assembleBase_ind {P : Elem → Prop} (cx : PCtx) {k : SKw} (p : Parts) (d : Option JVal) (hty : typeOK k)
    (untyped : P (mkElem .element (Gen.Param.names Gen.sigElement) (baseKw k p d) p))
    (typed : ∀ t, t ∈ knownTypes → (t = "object" → typeHasObject k = true) → P (mkTyped cx t k p d))
    (anyOf : ∀ t1 t2 r, (∀ t ∈ t1 :: t2 :: r, t ∈ knownTypes ∧ (t = "object" → typeHasObject k = true)) →
      P (Elem.compose .anyOf ((t1 :: t2 :: r).map fun t => mkTyped cx t k p none) d)) :
    P (assembleBase cx k p d) := by
  unfold assembleBase
  unfold typeOK at hty
  cases hk : k.type with
  | none => exact untyped
  | single t =>
    rw [hk] at hty
    exact typed t hty fun h => by simp [typeHasObject, hk, h]
  | list ts =>
    rw [hk] at hty
    have hobj : ∀ t ∈ ts, t = "object" → typeHasObject k = true := fun t ht h => by
      subst h; simpa [typeHasObject, hk] using ht
    match ts, hty, hobj with
    | [], hty, _ => exact absurd rfl hty.1
    | [t], hty, hobj => exact typed t (hty.2 t (List.mem_cons_self ..)) (hobj t (List.mem_cons_self ..))
    | t1 :: t2 :: r, hty, hobj => exact anyOf t1 t2 r fun t ht => ⟨hty.2 t ht, hobj t ht⟩

theorem nf_base {cx : PCtx} {k : SKw} {kids : Kids} (d : Option JVal) (N : NodeNF cx k kids) (K : KidsNF cx kids)
    (hd : d.map parseLiteral = d) (hty : typeOK k) (hti : titleOK k) :
    NF cx (assembleBase cx k (partsOf cx k kids) d) := by
  refine assembleBase_ind cx _ d hty (nf_untyped d N K hd) (fun t ht ho => nf_typed t d N K hd ht fun h => hti (ho h)) ?_
  intro t1 t2 r h
  refine NF_compose (by decide) (rt_anyOf cx _ _ _ d hd) (NFL_of_forall fun m hm => ?_)
  obtain ⟨t, ht, rfl⟩ := List.mem_map.mp hm
  exact nf_typed t none N K rfl (h t ht).1 fun ho => hti ((h t ht).2 ho)

/-- what `_parse_composition` may put the default `d` on: in normal form, and not `Nothing()` when there is a default -/
def NFd (cx : PCtx) (d : Option JVal) (m : Elem) : Prop := NF cx m ∧ (d.isSome = true → m.cls ≠ .nothing)

theorem nf_finish {cx : PCtx} {x : Elem} (d : Option JVal) (hx : NFd cx d x) (hd : d.map parseLiteral = d) :
    NF cx (finishComposition x d) := by
  unfold finishComposition
  cases ho : isObjectCls x.cls
  · simp only [Bool.false_eq_true, if_false]
    cases d with
    | none => exact hx.1
    | some v => exact NF_withDefault hx.1 (hx.2 rfl) v (Option.some.inj hd) (typeSpecOf_known _)
  · simp only [if_true]
    exact NF_compose (by decide) (rt_allOf_single cx x d hd ho) (NFL_single hx.1)

theorem nf_composeAll {cx : PCtx} (ms : List Elem) (d : Option JVal) (hm : ∀ m ∈ ms, NFd cx d m)
    (hnt : ∀ m ∈ ms, m.isTrivial = false) (hd : d.map parseLiteral = d) :
    NF cx (finishComposition (composeElements .allOf ms) d) := by
  match ms, hm, hnt with
  | [], _, _ => exact nf_finish d ⟨NF_trivial cx, fun _ => by decide⟩ hd
  | [x], hm, _ => exact nf_finish d (hm x (List.mem_cons_self ..)) hd
  | a :: b :: r, hm, hnt =>
    rw [composeElements_two, finish_compose .allOf _ d rfl]
    exact NF_compose (by decide) (rt_allOf cx a b r d hd hnt) (NFL_of_forall fun m h => (hm m h).1)

/-- `AnyOf` / `OneOf` over the members, with the collapse of none and of one -/
theorem nfd_composeMode {cx : PCtx} {d : Option JVal} (c : Cls) (hc : c = .anyOf ∨ c = .oneOf) {ms : List Elem}
    (hm : ∀ m ∈ ms, NFd cx d m) : NFd cx d (composeElements c ms) := by
  match ms, hm with
  | [], _ => exact ⟨NF_trivial cx, fun _ => (show Cls.element ≠ .nothing by decide)⟩
  | [x], hm => exact hm x (List.mem_cons_self ..)
  | a :: b :: r, hm =>
    rw [composeElements_two]
    have hms := NFL_of_forall fun m h => (hm m h).1
    rcases hc with rfl | rfl
    · exact ⟨NF_compose (by decide) (rt_anyOf cx a b r none rfl) hms, fun _ => (show Cls.anyOf ≠ .nothing by decide)⟩
    · exact ⟨NF_compose (by decide) (rt_oneOf cx a b r none rfl) hms, fun _ => (show Cls.oneOf ≠ .nothing by decide)⟩

/-- the five kinds of member `_parse_composition` collects -/
theorem forall_compositionMembers {P : Elem → Prop} {base : Elem} {anyOf oneOf allOf : List Elem} {not : Option Elem}
    (hb : P base) (hall : ∀ m ∈ allOf, P m) (hone : P (composeElements .oneOf oneOf))
    (hany : P (composeElements .anyOf anyOf)) (hnot : ∀ e, not = some e → P (notNode e none)) :
    ∀ m ∈ compositionMembers base anyOf oneOf allOf not, P m := by
  intro m hm
  unfold compositionMembers at hm
  simp only [List.mem_append, List.mem_singleton] at hm
  rcases hm with (((rfl | hm) | rfl) | rfl) | hm
  · exact hb
  · exact hall m hm
  · exact hone
  · exact hany
  · cases not with
    | none => cases hm
    | some e => rw [List.mem_singleton.mp hm]; exact hnot e rfl

theorem assembleBase_cls (cx : PCtx) (k : SKw) (p : Parts) (d : Option JVal) (hty : typeOK k) :
    (assembleBase cx k p d).cls ≠ .nothing :=
  assembleBase_ind (P := fun e => e.cls ≠ .nothing) cx p d hty (show Cls.element ≠ .nothing by decide)
    (fun t ht _ => mkTyped_cls_ne_nothing cx t k p d ht) fun _ _ _ _ => (show Cls.anyOf ≠ .nothing by decide)

theorem nf_composition {cx : PCtx} {k : SKw} {kids : Kids} (N : NodeNF cx k kids) (K : KidsNF cx kids) (hty : typeOK k)
    (hti : titleOK k)
    (hnn : k.default.isSome = true → ∀ m ∈ kids.anyOf ++ kids.oneOf ++ kids.allOf, m.cls ≠ .nothing) :
    NF cx (assembleComposition cx k (partsOf cx k kids) (k.default.map parseLiteral) kids.anyOf kids.oneOf kids.allOf kids.not) := by
  unfold assembleComposition
  have kid : ∀ {l}, NFL cx l → (∀ m ∈ l, m ∈ kids.anyOf ++ kids.oneOf ++ kids.allOf) →
      ∀ m ∈ l, NFd cx (k.default.map parseLiteral) m :=
    fun hl hsub m hm => ⟨forall_of_NFL hl m hm, fun h => hnn (by simpa using h) m (hsub m hm)⟩
  have hmem := forall_compositionMembers (P := NFd cx (k.default.map parseLiteral)) (not := kids.not)
    ⟨nf_base none N K rfl hty hti, fun _ => assembleBase_cls cx k _ none hty⟩
    (kid K.allOf fun m hm => List.mem_append_right _ hm)
    (nfd_composeMode .oneOf (Or.inr rfl) (kid K.oneOf fun m hm => List.mem_append_left _ (List.mem_append_right _ hm)))
    (nfd_composeMode .anyOf (Or.inl rfl) (kid K.anyOf fun m hm => List.mem_append_left _ (List.mem_append_left _ hm)))
    (fun e he => by
      have hrt := rt_not cx e none rfl
      rw [notNode_eq] at hrt ⊢
      exact ⟨NF_compose (by decide) hrt (NFL_single (by have := K.not; rwa [he, NFO] at this)), fun _ => nofun⟩)
  exact nf_composeAll _ _ (fun m hm => hmem m (List.mem_filter.mp hm).1) (fun m hm => by simpa using (List.mem_filter.mp hm).2)
    (default_fix N.lit)

theorem nf_assembleK {cx : PCtx} {k : SKw} {kids : Kids} (N : NodeNF cx k kids) (K : KidsNF cx kids) (hty : typeOK k)
    (hti : titleOK k)
    (hnn : k.default.isSome = true → ∀ m ∈ kids.anyOf ++ kids.oneOf ++ kids.allOf, m.cls ≠ .nothing) :
    NF cx (assembleK cx k kids) := by
  unfold assembleK assemble
  split
  · exact nf_composition N K hty hti hnn
  · exact nf_base _ N K (default_fix N.lit) hty hti

/-- `additionalItems` / `additionalProperties` given as a schema object does not parse to `Nothing()` (the boolean `false` is
    kept as a boolean; `Nothing()` there would be written back as `false`) -/
def addlOK (cx : PCtx) : Option Schema → Bool
  | some (.bool _) => true
  | some s => (parseE cx s).cls != .nothing
  | none => true

/-- a Bool on the *source* node; `nodeNF_of_flags` turns it into `NodeNF ∧ typeOK ∧ titleOK` and the two `Nothing()`
    exclusions on the parsed children; which finding each conjunct excludes is listed at `C06_round_trip` -/
def nfNodeB (cx : PCtx) (k : SKw) (props : List (String × Schema)) (addI addP : Option Schema)
    (anyOf oneOf allOf : List Schema) : Bool :=
  litCleanNode k &&
  (match k.required with
   | some [] => false
   | _ => true) &&
  (k.hasProps == !props.isEmpty) &&
  distinct (props.map (·.1)) &&
  noCollapse cx k props &&
  optAll k.required distinct &&
  (match k.type with
   | .none => true
   | .single t => knownTypes.contains t
   | .list ts => !ts.isEmpty && ts.all (knownTypes.contains ·)) &&
  (!typeHasObject k || titleFormat (className k) == className k) &&
  addlOK cx addI && addlOK cx addP &&
  (k.default.isNone || (anyOf ++ oneOf ++ allOf).all fun m => (parseE cx m).cls != .nothing)

mutual
def nfGood (cx : PCtx) : Schema → Bool
  | .bool _ => true
  | .mk k items addI cont props pats addP pn deps anyOf oneOf allOf not =>
    nfNodeB cx k props addI addP anyOf oneOf allOf &&
    nfGoodL cx items && nfGoodO cx addI && nfGoodO cx cont && nfGoodN cx props && nfGoodN cx pats && nfGoodO cx addP &&
    nfGoodO cx pn && nfGoodD cx deps && nfGoodL cx anyOf && nfGoodL cx oneOf && nfGoodL cx allOf && nfGoodO cx not
def nfGoodO (cx : PCtx) : Option Schema → Bool
  | none => true
  | some s => nfGood cx s
def nfGoodL (cx : PCtx) : List Schema → Bool
  | [] => true
  | s :: ss => nfGood cx s && nfGoodL cx ss
def nfGoodN (cx : PCtx) : List (String × Schema) → Bool
  | [] => true
  | (_, s) :: r => nfGood cx s && nfGoodN cx r
def nfGoodD (cx : PCtx) : List (Key × Schema) → Bool
  | [] => true
  | (_, s) :: r => nfGood cx s && nfGoodD cx r
end

theorem NF_nothing (cx : PCtx) : NF cx Elem.nothing := by
  unfold Elem.nothing Elem.leaf
  rw [NF]
  exact ⟨⟨fun _ => rfl, fun h => absurd rfl h, trivial, trivial⟩, nil_NFL cx, none_NFO cx, none_NFO cx, nil_NFK cx, nil_NFK cx,
    none_NFO cx, none_NFO cx, nil_NFK cx, nil_NFL cx⟩

theorem parseAddl_some_flag (cx : PCtx) (o : Option Schema) : (parseAddl cx o).1.isSome = true → (parseAddl cx o).2 = true := by
  cases o with
  | none => rw [parseAddl]; intro h; cases h
  | some s =>
    cases s with
    | bool b => rw [parseAddl]; intro h; cases h
    | mk => rw [parseAddl]; intro _; rfl

theorem parseAddl_nn (cx : PCtx) (o : Option Schema) (h : addlOK cx o = true) : notNothing (parseAddl cx o).1 := by
  cases o with
  | none => rw [parseAddl]; trivial
  | some s =>
    cases s with
    | bool b => rw [parseAddl]; trivial
    | mk k a b c d e f g h' i j l m =>
      rw [parseAddl]
      unfold addlOK at h
      simpa [notNothing] using h

/-- the last conjunct of `nfNodeB`: under a default no composition member parses to `Nothing()` -/
theorem members_of_flag {cx : PCtx} {d : Option JVal} {l : List Schema}
    (h : (d.isNone || l.all fun m => (parseE cx m).cls != .nothing) = true) (hd : d.isSome = true) :
    ∀ m ∈ l.map (parseE cx), m.cls ≠ .nothing := by
  intro m hm
  obtain ⟨sch, hs, rfl⟩ := List.mem_map.mp hm
  have hall : l.all (fun m => (parseE cx m).cls != .nothing) = true := by
    simpa [Option.isSome_iff_ne_none.mp hd] using h
  simpa using List.all_eq_true.mp hall sch hs

theorem nodeNF_of_flags {cx : PCtx} {k : SKw} {props : List (String × Schema)} {addI addP : Option Schema}
    {anyOf oneOf allOf : List Schema} (kids : Kids)
    (hf : nfNodeB cx k props addI addP anyOf oneOf allOf = true)
    (hnames : kids.props.map (·.1) = props.map (·.1))
    (hI : kids.addItems = parseAddl cx addI) (hP : kids.addProps = parseAddl cx addP)
    (hM : kids.anyOf ++ kids.oneOf ++ kids.allOf = (anyOf ++ oneOf ++ allOf).map (parseE cx)) :
    NodeNF cx k kids ∧ typeOK k ∧ titleOK k ∧ notNothing kids.addItems.1 ∧ notNothing kids.addProps.1 ∧
      (k.default.isSome = true → ∀ m ∈ kids.anyOf ++ kids.oneOf ++ kids.allOf, m.cls ≠ .nothing) := by
  unfold nfNodeB at hf
  simp only [Bool.and_eq_true] at hf
  obtain ⟨⟨⟨⟨⟨⟨⟨⟨⟨⟨hlit, hreq⟩, hhp⟩, hdn⟩, hcol⟩, hrd⟩, hty⟩, hti⟩, haI⟩, haP⟩, hnn⟩ := hf
  have hempty : kids.props.isEmpty = props.isEmpty := by
    rw [← List.isEmpty_map (f := (·.1)), hnames, List.isEmpty_map]
  refine ⟨⟨hlit, ?_, ?_, ?_, ?_, ?_, ?_, ?_, ?_⟩, ?_, ?_, ?_, ?_, ?_⟩
  · intro h; rw [h] at hreq; cases hreq
  · rw [hempty]; simpa using hhp
  · rw [hnames]; exact hdn
  · rw [hnames]; exact injOn_of_flag hcol
  · rw [hnames]; exact nonempty_of_flag hcol
  · exact distinct_getD hrd
  · rw [hI]; exact parseAddl_some_flag cx addI
  · rw [hP]; exact parseAddl_some_flag cx addP
  -- the flag is already in the shape `typeOK_of_flag` asks for
  · exact typeOK_of_flag (fun _ h => h) hty
  · unfold titleOK
    intro ho
    simpa [ho] using hti
  · rw [hI]; exact parseAddl_nn cx addI haI
  · rw [hP]; exact parseAddl_nn cx addP haP
  · intro hd m hm
    rw [hM] at hm
    exact members_of_flag hnn hd m hm

theorem parseList_eq_map (cx : PCtx) (l : List Schema) : parseList cx l = l.map (parseE cx) := by
  induction l with
  | nil => rw [parseList]; rfl
  | cons s ss ih => rw [parseList, ih]; rfl

mutual
theorem parse_NF (cx : PCtx) : ∀ (s : Schema), nfGood cx s = true → NF cx (parseE cx s)
  | .bool b, _ => by
    rw [parseE]
    cases b
    · exact NF_nothing cx
    · exact NF_trivial cx
  | .mk k items addI cont props pats addP pn deps anyOf oneOf allOf not, h => by
    rw [nfGood] at h
    simp only [Bool.and_eq_true, and_assoc] at h
    obtain ⟨h0, h1, h2, h3, h4, h5, h6, h7, h8, h9, h10, h11, h12⟩ := h
    rw [parseE]
    obtain ⟨N, hty, hti, hnI, hnP, hnn⟩ := nodeNF_of_flags (kidsOf cx items addI cont props pats addP pn deps anyOf oneOf allOf not) h0
      (parseNamed_names cx props) rfl rfl (by simp only [kidsOf, parseList_eq_map, List.map_append])
    exact nf_assembleK N
      { items := parseList_NF cx items h1
        addItems := parseAddl_NF cx addI h2
        contains := parseOpt_NF cx cont h3
        props := parseNamed_NF cx props h4
        patProps := parseNamed_NF cx pats h5
        addProps := parseAddl_NF cx addP h6
        propNames := parseOpt_NF cx pn h7
        deps := parseDeps_NF cx deps h8
        anyOf := parseList_NF cx anyOf h9
        oneOf := parseList_NF cx oneOf h10
        allOf := parseList_NF cx allOf h11
        not := parseOpt_NF cx not h12
        nnI := hnI
        nnP := hnP } hty hti hnn
theorem parseOpt_NF (cx : PCtx) : ∀ (o : Option Schema), nfGoodO cx o = true → NFO cx (parseOpt cx o)
  | none, _ => by rw [parseOpt]; exact none_NFO cx
  | some s, h => by
    rw [nfGoodO] at h
    rw [parseOpt, NFO]
    exact parse_NF cx s h
theorem parseAddl_NF (cx : PCtx) : ∀ (o : Option Schema), nfGoodO cx o = true → NFO cx (parseAddl cx o).1
  | none, _ => by rw [parseAddl]; exact none_NFO cx
  | some (.bool b), _ => by rw [parseAddl]; exact none_NFO cx
  | some (.mk k items addI cont props pats addP pn deps anyOf oneOf allOf not), h => by
    rw [nfGoodO] at h
    rw [parseAddl]
    show NFO cx (some _)
    rw [NFO]
    exact parse_NF cx _ h
theorem parseList_NF (cx : PCtx) : ∀ (l : List Schema), nfGoodL cx l = true → NFL cx (parseList cx l)
  | [], _ => by rw [parseList]; exact nil_NFL cx
  | s :: ss, h => by
    rw [nfGoodL, Bool.and_eq_true] at h
    rw [parseList, NFL]
    exact ⟨parse_NF cx s h.1, parseList_NF cx ss h.2⟩
theorem parseNamed_NF (cx : PCtx) : ∀ (l : List (String × Schema)), nfGoodN cx l = true → ∀ p ∈ parseNamed cx l, NF cx p.2
  | [], _ => by rw [parseNamed]; intro p hp; cases hp
  | (k, s) :: r, h => by
    rw [nfGoodN, Bool.and_eq_true] at h
    rw [parseNamed]
    intro p hp
    rcases List.mem_cons.mp hp with rfl | hp
    · exact parse_NF cx s h.1
    · exact parseNamed_NF cx r h.2 p hp
theorem parseDeps_NF (cx : PCtx) : ∀ (l : List (Key × Schema)), nfGoodD cx l = true → ∀ p ∈ parseDeps cx l, NF cx p.2
  | [], _ => by rw [parseDeps]; intro p hp; cases hp
  | (k, s) :: r, h => by
    rw [nfGoodD, Bool.and_eq_true] at h
    rw [parseDeps]
    intro p hp
    rcases List.mem_cons.mp hp with rfl | hp
    · exact parse_NF cx s h.1
    · exact parseDeps_NF cx r h.2 p hp
end

end Statham
