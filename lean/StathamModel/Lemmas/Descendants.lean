import StathamModel.Py.Module
namespace Statham

theorem mem_descendants {c : Cls} {kw : Kw} {items : List Elem} {addI cont : Option Elem} {props pats : List (Key × Elem)}
    {addP pn : Option Elem} {deps : List (Key × Elem)} {els : List Elem} {d : Elem} :
    d ∈ descendants (.mk c kw items addI cont props pats addP pn deps els) ↔
      d ∈ descL items ∨ d ∈ descO addI ∨ d ∈ descO cont ∨ d ∈ descK props ∨ d ∈ descO addP ∨ d ∈ descK pats ∨
        d ∈ descO pn ∨ d ∈ descD deps ∨ d ∈ descL els := by
  rw [descendants]
  simp only [List.mem_append, or_assoc]

theorem forall_mem_descendants {c : Cls} {kw : Kw} {items : List Elem} {addI cont : Option Elem} {props pats : List (Key × Elem)}
    {addP pn : Option Elem} {deps : List (Key × Elem)} {els : List Elem} {P : Elem → Prop} :
    (∀ d ∈ descendants (.mk c kw items addI cont props pats addP pn deps els), P d) ↔
      (∀ d ∈ descL items, P d) ∧ (∀ d ∈ descO addI, P d) ∧ (∀ d ∈ descO cont, P d) ∧ (∀ d ∈ descK props, P d) ∧
        (∀ d ∈ descO addP, P d) ∧ (∀ d ∈ descK pats, P d) ∧ (∀ d ∈ descO pn, P d) ∧ (∀ d ∈ descD deps, P d) ∧
        (∀ d ∈ descL els, P d) := by
  simp only [mem_descendants, or_imp, forall_and]

def DescClosed (s : List Elem) : Prop := ∀ y ∈ s, ∀ x ∈ descendants y, x ∈ s

theorem DescClosed.nil : DescClosed [] := fun _ h => nomatch h

theorem DescClosed.append {s t : List Elem} (hs : DescClosed s) (ht : DescClosed t) : DescClosed (s ++ t) := by
  intro y hy x hx
  rcases List.mem_append.mp hy with hy | hy
  · exact List.mem_append_left _ (hs y hy x hx)
  · exact List.mem_append_right _ (ht y hy x hx)

theorem DescClosed.cons {e : Elem} (h : DescClosed (descendants e)) : DescClosed (e :: descendants e) := by
  intro y hy x hx
  rcases List.mem_cons.mp hy with rfl | hy
  · exact List.mem_cons_of_mem _ hx
  · exact List.mem_cons_of_mem _ (h y hy x hx)

mutual
theorem desc_trans : ∀ (z : Elem) (y : Elem), y ∈ descendants z → ∀ x ∈ descendants y, x ∈ descendants z
  | .mk c kw items addI cont props pats addP pn deps els => by
    rw [descendants]
    show DescClosed _
    exact .append (.append (.append (.append (.append (.append (.append (.append
      (descL_trans items) (descO_trans addI)) (descO_trans cont)) (descK_trans props)) (descO_trans addP))
      (descK_trans pats)) (descO_trans pn)) (descD_trans deps)) (descL_trans els)
theorem descO_trans : ∀ (o : Option Elem) (y : Elem), y ∈ descO o → ∀ x ∈ descendants y, x ∈ descO o
  | none => by rw [descO]; exact DescClosed.nil
  | some e => by rw [descO]; exact DescClosed.cons (desc_trans e)
theorem descL_trans : ∀ (l : List Elem) (y : Elem), y ∈ descL l → ∀ x ∈ descendants y, x ∈ descL l
  | [] => by rw [descL]; exact DescClosed.nil
  | e :: es => by rw [descL]; exact DescClosed.append (.cons (desc_trans e)) (descL_trans es)
theorem descK_trans : ∀ (l : List (Key × Elem)) (y : Elem), y ∈ descK l → ∀ x ∈ descendants y, x ∈ descK l
  | [] => by rw [descK]; exact DescClosed.nil
  | (_, e) :: r => by rw [descK]; exact DescClosed.append (.cons (desc_trans e)) (descK_trans r)
theorem descD_trans : ∀ (l : List (Key × Elem)) (y : Elem), y ∈ descD l → ∀ x ∈ descendants y, x ∈ descD l
  | [] => by rw [descD]; exact DescClosed.nil
  | (k, e) :: r => by
    rw [descD]
    refine DescClosed.append ?_ (descD_trans r)
    split
    · exact DescClosed.nil
    · exact DescClosed.cons (desc_trans e)
end

theorem mem_descK {l : List (Key × Elem)} {k : Key} {e : Elem} (h : (k, e) ∈ l) :
    e ∈ descK l ∧ ∀ x ∈ descendants e, x ∈ descK l := by
  induction l with
  | nil => cases h
  | cons a r ih =>
    obtain ⟨k', e'⟩ := a
    rw [descK]
    rcases List.mem_cons.mp h with he | h
    · simp only [Prod.mk.injEq] at he
      obtain ⟨_, rfl⟩ := he
      exact ⟨List.mem_append_left _ (List.mem_cons_self ..),
        fun x hx => List.mem_append_left _ (List.mem_cons_of_mem _ hx)⟩
    · exact ⟨List.mem_append_right _ (ih h).1, fun x hx => List.mem_append_right _ ((ih h).2 x hx)⟩

theorem prop_in_descendants (c : Elem) {k : Key} {e : Elem} (h : (k, e) ∈ c.props) :
    ∀ x ∈ e :: descendants e, x ∈ descendants c := by
  cases c with
  | mk cl kw items addI cont props pats addP pn deps els =>
    simp only [Elem.props] at h
    intro x hx
    have := mem_descK h
    rcases List.mem_cons.mp hx with rfl | hx
    · exact mem_descendants.mpr (.inr (.inr (.inr (.inl this.1))))
    · exact mem_descendants.mpr (.inr (.inr (.inr (.inl (this.2 x hx)))))

theorem mem_insertSorted {s x : String} {l : List String} : x ∈ insertSorted s l ↔ x = s ∨ x ∈ l := by
  induction l with
  | nil => simp [insertSorted]
  | cons a r ih =>
    rw [insertSorted]
    split
    · simp
    · split
      · rename_i h
        have : s = a := by simpa using h
        simp [this]
      · simp only [List.mem_cons, ih]
        exact or_left_comm

theorem mem_sortDedupe {x : String} {l : List String} : x ∈ sortDedupe l ↔ x ∈ l := by
  unfold sortDedupe
  suffices h : ∀ (acc : List String), x ∈ l.foldl (fun acc s => insertSorted s acc) acc ↔ x ∈ l ∨ x ∈ acc by
    simpa using h []
  induction l with
  | nil => intro acc; simp
  | cons a r ih =>
    intro acc
    simp only [List.foldl_cons, ih, mem_insertSorted, List.mem_cons]
    rw [or_left_comm, or_assoc]

end Statham
