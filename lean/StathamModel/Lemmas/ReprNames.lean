/-
  Which names the printed form of an element refers to: the constructor names of the element classes in the
  tree, `Property`, and the names of the model classes it reaches.
-/
import StathamModel.Py.Module
import StathamModel.Lemmas.KwExpr
import StathamModel.Lemmas.Descendants
namespace Statham

/-- the name an element is printed with: its constructor, or the class name for a model class -/
def printedName (e : Elem) : String := pyClassName e.cls

/-- a name a printed form may mention: `Property`, or the printed name of a member of `pool` -/
def Allowed (pool : List Elem) (n : String) : Prop := n = "Property" ∨ ∃ d ∈ pool, printedName d = n

theorem printedName_object {d : Elem} (h : isObjectClass d.cls = true) : printedName d = objName d.cls := by
  unfold printedName
  cases hd : d.cls <;> simp [hd, isObjectClass] at h
  rfl

theorem importName_eq (d : Elem) : importName d = if isObjectClass d.cls then "Object" else printedName d := by
  unfold importName printedName
  cases d.cls <;> rfl

theorem Allowed.mono {pool pool' : List Elem} {n : String} (h : Allowed pool n) (hs : ∀ d ∈ pool, d ∈ pool') :
    Allowed pool' n := by
  rcases h with h | ⟨d, hd, hn⟩
  · exact Or.inl h
  · exact Or.inr ⟨d, hs d hd, hn⟩

mutual
/-- arrays always have `items` (the constructor requires it; otherwise the repr prints `NotPassed`), and at any node a
    single-item `items` holds its item -/
def ArraysOK : Elem → Prop
  | .mk c kw items addI cont props pats addP pn deps els =>
    (c = .array → kw.itemsKind ≠ .none) ∧ (kw.itemsKind = .single → items ≠ []) ∧
    ArraysOKL items ∧ ArraysOKO addI ∧ ArraysOKO cont ∧ ArraysOKK props ∧ ArraysOKK pats ∧ ArraysOKO addP ∧ ArraysOKO pn ∧
    ArraysOKK deps ∧ ArraysOKL els
def ArraysOKO : Option Elem → Prop
  | none => True
  | some e => ArraysOK e
def ArraysOKL : List Elem → Prop
  | [] => True
  | e :: es => ArraysOK e ∧ ArraysOKL es
def ArraysOKK : List (Key × Elem) → Prop
  | [] => True
  | (_, e) :: r => ArraysOK e ∧ ArraysOKK r
end

/-- in the shape `kwExpr` prints them: `Property` once per property, nothing for a names-valued dependency -/
def kidsNames (k : ReprKids) : List String :=
  PyExpr.namesList k.items ++ (k.addItems.map PyExpr.names).getD [] ++ (k.contains.map PyExpr.names).getD [] ++
  (k.props.map fun p => "Property" :: p.2.names).flatten ++ (k.patProps.map fun p => p.2.names).flatten ++
  (k.addProps.map PyExpr.names).getD [] ++ (k.propNames.map PyExpr.names).getD [] ++
  (k.deps.map fun p => if p.1.names.isSome then [] else p.2.names).flatten ++ PyExpr.namesList k.elements

theorem mem_kidsNames {k : ReprKids} {n : String} :
    n ∈ kidsNames k ↔ n ∈ PyExpr.namesList k.items ∨ n ∈ (k.addItems.map PyExpr.names).getD [] ∨
      n ∈ (k.contains.map PyExpr.names).getD [] ∨ n ∈ (k.props.map fun p => "Property" :: p.2.names).flatten ∨
      n ∈ (k.patProps.map fun p => p.2.names).flatten ∨ n ∈ (k.addProps.map PyExpr.names).getD [] ∨
      n ∈ (k.propNames.map PyExpr.names).getD [] ∨
      n ∈ (k.deps.map fun p => if p.1.names.isSome then [] else p.2.names).flatten ∨ n ∈ PyExpr.namesList k.elements := by
  simp only [kidsNames, List.mem_append, or_assoc]

theorem namesKw_eq (l : List (String × PyExpr)) : PyExpr.namesKw l = (l.map fun p => p.2.names).flatten := by
  induction l with
  | nil => rfl
  | cons a r ih => rw [PyExpr.namesKw, ih]; rfl

theorem mem_namesList {l : List PyExpr} {n : String} : n ∈ PyExpr.namesList l ↔ ∃ e ∈ l, n ∈ e.names := by
  induction l with
  | nil => simp [PyExpr.namesList]
  | cons a r ih => simp [PyExpr.namesList, ih]

theorem namesKw_map_lit {α} (l : List α) (f : α → String) (g : α → JVal) :
    PyExpr.namesKw (l.map fun a => (f a, PyExpr.lit (g a))) = [] := by
  simp [namesKw_eq, PyExpr.names]

theorem propExpr_names (k : Key) (e : PyExpr) : (propExpr k e).names = "Property" :: e.names := by
  unfold propExpr
  by_cases h1 : k.required = true <;> by_cases h2 : (k.src == k.name) = true <;>
    simp [h1, h2, PyExpr.names, PyExpr.namesList, PyExpr.namesKw]

theorem namesKw_props (l : List (Key × PyExpr)) :
    PyExpr.namesKw (l.map fun p => (p.1.name, propExpr p.1 p.2)) = (l.map fun p => "Property" :: p.2.names).flatten := by
  simp only [namesKw_eq, List.map_map, Function.comp_def, propExpr_names]

theorem namesKw_keyed (l : List (Key × PyExpr)) :
    PyExpr.namesKw (l.map fun p => (p.1.name, p.2)) = (l.map fun p => p.2.names).flatten := by
  simp only [namesKw_eq, List.map_map, Function.comp_def]

theorem namesKw_deps (l : List (Key × PyExpr)) :
    PyExpr.namesKw (l.map PyEval.depExpr) = (l.map fun p => if p.1.names.isSome then [] else p.2.names).flatten := by
  simp only [namesKw_eq, List.map_map, Function.comp_def, PyEval.depExpr]
  congr 2
  funext p
  cases p.1.names <;> rfl

theorem mem_names_getD {o : Option PyExpr} {x : PyExpr} (h : o = some x) {n : String} (hn : n ∈ x.names) :
    n ∈ (o.map PyExpr.names).getD [] := by
  rw [h]; exact hn

theorem kwExpr_names (kw : Kw) (k : ReprKids) (name : String) (x : PyExpr) (h : kwExpr kw k name = some x) :
    ∀ n ∈ x.names, n ∈ kidsNames k := by
  intro n hn
  have hp := kwExpr_printed kw k name
  rw [h] at hp
  rw [mem_kidsNames]
  cases hp with
  | lit v => cases hn
  | items => exact .inl hn
  | props => exact .inr (.inr (.inr (.inl (namesKw_props k.props ▸ hn))))
  | pats => exact .inr (.inr (.inr (.inr (.inl (namesKw_keyed k.patProps ▸ hn)))))
  | deps => exact .inr (.inr (.inr (.inr (.inr (.inr (.inr (.inl (namesKw_deps k.deps ▸ hn))))))))
  | kid h =>
    rcases h with h | h | h | h | h
    · exact .inr (.inl (mem_names_getD h hn))
    · exact .inr (.inr (.inl (mem_names_getD h hn)))
    · exact .inr (.inr (.inr (.inr (.inr (.inl (mem_names_getD h hn))))))
    · exact .inr (.inr (.inr (.inr (.inr (.inr (.inl (mem_names_getD h hn)))))))
    · exact .inl (mem_namesList.mpr ⟨x, h, hn⟩)

theorem kwargsOf_names (sig : List Gen.Param) (kw : Kw) (k : ReprKids) :
    ∀ n ∈ PyExpr.namesKw (kwargsOf sig kw k), n ∈ kidsNames k := by
  intro n hn
  rw [namesKw_eq] at hn
  obtain ⟨_, hl, hx⟩ := List.mem_flatten.mp hn
  obtain ⟨⟨name, x⟩, hp, rfl⟩ := List.mem_map.mp hl
  exact kwExpr_names kw k name x (mem_kwargsOf.mp hp).2 n hx

/-- the positional arguments of a printed constructor call -/
def posArgs (c : Cls) (kw : Kw) (k : ReprKids) : List PyExpr :=
  match c with
  | .array => [(kwExpr kw k "items").getD (.name "NotPassed")]
  | .not => k.elements.take 1
  | .anyOf | .oneOf | .allOf => k.elements
  | _ => []

theorem reprCore_call (c : Cls) (kw : Kw) (k : ReprKids) (hc : ∀ n, c ≠ .object n) :
    ∃ sig, reprCore c kw k = .call (pyClassName c) (posArgs c kw k) (kwargsOf sig kw k) := by
  cases c
  case object n => exact absurd rfl (hc n)
  all_goals exact ⟨_, rfl⟩

theorem posArgs_names (c : Cls) (kw : Kw) (k : ReprKids) (harr : c = .array → kw.itemsKind ≠ .none)
    (hsingle : kw.itemsKind = .single → k.items ≠ []) : ∀ n ∈ PyExpr.namesList (posArgs c kw k), n ∈ kidsNames k := by
  intro n hn
  have els_in : ∀ m, m ∈ PyExpr.namesList k.elements → m ∈ kidsNames k := fun m hm =>
    mem_kidsNames.mpr (.inr (.inr (.inr (.inr (.inr (.inr (.inr (.inr hm))))))))
  cases c
  case array =>
    obtain ⟨x, hx⟩ := kwExpr_items_isSome kw k (harr rfl) hsingle
    simp only [posArgs, hx, Option.getD_some, PyExpr.namesList, List.append_nil] at hn
    exact kwExpr_names kw k "items" x hx n hn
  case not =>
    obtain ⟨e, he, hne⟩ := mem_namesList.mp hn
    exact els_in n (mem_namesList.mpr ⟨e, List.mem_of_mem_take he, hne⟩)
  case anyOf => exact els_in n hn
  case oneOf => exact els_in n hn
  case allOf => exact els_in n hn
  all_goals cases hn

theorem reprCore_names (c : Cls) (kw : Kw) (k : ReprKids) (harr : c = .array → kw.itemsKind ≠ .none)
    (hsingle : kw.itemsKind = .single → k.items ≠ []) :
    ∀ n ∈ (reprCore c kw k).names, n = pyClassName c ∨ n ∈ kidsNames k := by
  intro n hn
  by_cases hc : ∃ m, c = .object m
  · obtain ⟨m, rfl⟩ := hc
    exact Or.inl (List.mem_singleton.mp hn)
  · obtain ⟨sig, h⟩ := reprCore_call c kw k fun m hm => hc ⟨m, hm⟩
    rw [h, PyExpr.names, List.mem_cons, List.mem_append] at hn
    rcases hn with rfl | hn | hn
    · exact Or.inl rfl
    · exact Or.inr (posArgs_names c kw k harr hsingle n hn)
    · exact Or.inr (kwargsOf_names _ kw k n hn)

theorem reprList_ne_nil {es : List Elem} (h : es ≠ []) : reprList es ≠ [] := by
  cases es with
  | nil => exact absurd rfl h
  | cons e r => rw [reprList]; exact List.cons_ne_nil _ _

/-- what a printed element refers to, from what its rendered kids refer to -/
theorem names_of_kids (e : Elem) (h : ArraysOK e) (hk : ∀ n ∈ kidsNames (reprKidsOf e), Allowed (descendants e) n) :
    ∀ n ∈ (reprExpr e).names, Allowed (e :: descendants e) n := by
  cases e with
  | mk c kw items addI cont props pats addP pn deps els =>
    rw [ArraysOK] at h
    intro n hn
    rw [reprExpr] at hn
    rcases reprCore_names c kw _ h.1 (fun hs => reprList_ne_nil (h.2.1 hs)) n hn with hn | hn
    · exact Or.inr ⟨_, List.mem_cons_self .., by rw [hn]; rfl⟩
    · exact (hk n hn).mono fun d hd => List.mem_cons_of_mem _ hd

mutual
theorem kids_allowed : ∀ (e : Elem), ArraysOK e → ∀ n ∈ kidsNames (reprKidsOf e), Allowed (descendants e) n
  | .mk c kw items addI cont props pats addP pn deps els, h => by
    rw [ArraysOK] at h
    obtain ⟨_, _, hi, ha, hc, hp, hpt, hap, hpn, hd, he⟩ := h
    intro n hn
    rw [mem_kidsNames] at hn
    rcases hn with hn | hn | hn | hn | hn | hn | hn | hn | hn
    · exact (reprList_names items hi n hn).mono fun d hd => mem_descendants.mpr (.inl hd)
    · exact (reprOpt_names addI ha n hn).mono fun d hd => mem_descendants.mpr (.inr (.inl hd))
    · exact (reprOpt_names cont hc n hn).mono fun d hd => mem_descendants.mpr (.inr (.inr (.inl hd)))
    · exact (reprProps_names props hp n hn).mono fun d hd => mem_descendants.mpr (.inr (.inr (.inr (.inl hd))))
    · exact (reprKeyed_names pats hpt n hn).mono fun d hd =>
        mem_descendants.mpr (.inr (.inr (.inr (.inr (.inr (.inl hd))))))
    · exact (reprOpt_names addP hap n hn).mono fun d hd => mem_descendants.mpr (.inr (.inr (.inr (.inr (.inl hd)))))
    · exact (reprOpt_names pn hpn n hn).mono fun d hd =>
        mem_descendants.mpr (.inr (.inr (.inr (.inr (.inr (.inr (.inl hd)))))))
    · exact (reprDeps_names deps hd n hn).mono fun d hd =>
        mem_descendants.mpr (.inr (.inr (.inr (.inr (.inr (.inr (.inr (.inl hd))))))))
    · exact (reprList_names els he n hn).mono fun d hd =>
        mem_descendants.mpr (.inr (.inr (.inr (.inr (.inr (.inr (.inr (.inr hd))))))))
theorem reprOpt_names : ∀ (o : Option Elem), ArraysOKO o →
    ∀ n ∈ ((reprOpt o).map PyExpr.names).getD [], Allowed (descO o) n
  | none, _ => by intro n hn; simp [reprOpt] at hn
  | some e, h => by
    rw [ArraysOKO] at h
    intro n hn
    simp only [reprOpt, Option.map_some, Option.getD_some] at hn
    rw [descO]
    exact names_of_kids e h (kids_allowed e h) n hn
theorem reprList_names : ∀ (es : List Elem), ArraysOKL es → ∀ n ∈ PyExpr.namesList (reprList es), Allowed (descL es) n
  | [], _ => by intro n hn; simp [reprList, PyExpr.namesList] at hn
  | e :: es, h => by
    rw [ArraysOKL] at h
    intro n hn
    simp only [reprList, PyExpr.namesList, List.mem_append] at hn
    rw [descL]
    rcases hn with hn | hn
    · exact (names_of_kids e h.1 (kids_allowed e h.1) n hn).mono fun d hd => List.mem_append_left _ hd
    · exact (reprList_names es h.2 n hn).mono fun d hd => List.mem_append_right _ hd
theorem reprProps_names : ∀ (l : List (Key × Elem)), ArraysOKK l →
    ∀ n ∈ ((reprKeyed l).map fun p => "Property" :: p.2.names).flatten, Allowed (descK l) n
  | [], _ => by intro n hn; simp [reprKeyed] at hn
  | (k, e) :: r, h => by
    rw [ArraysOKK] at h
    intro n hn
    simp only [reprKeyed, List.map_cons, List.flatten_cons, List.mem_append, List.mem_cons] at hn
    rw [descK]
    rcases hn with (hn | hn) | hn
    · exact Or.inl hn
    · exact (names_of_kids e h.1 (kids_allowed e h.1) n hn).mono fun d hd => List.mem_append_left _ hd
    · exact (reprProps_names r h.2 n hn).mono fun d hd => List.mem_append_right _ hd
theorem reprKeyed_names : ∀ (l : List (Key × Elem)), ArraysOKK l →
    ∀ n ∈ ((reprKeyed l).map fun p => p.2.names).flatten, Allowed (descK l) n
  | [], _ => by intro n hn; simp [reprKeyed] at hn
  | (k, e) :: r, h => by
    rw [ArraysOKK] at h
    intro n hn
    simp only [reprKeyed, List.map_cons, List.flatten_cons, List.mem_append] at hn
    rw [descK]
    rcases hn with hn | hn
    · exact (names_of_kids e h.1 (kids_allowed e h.1) n hn).mono fun d hd => List.mem_append_left _ hd
    · exact (reprKeyed_names r h.2 n hn).mono fun d hd => List.mem_append_right _ hd
theorem reprDeps_names : ∀ (l : List (Key × Elem)), ArraysOKK l →
    ∀ n ∈ ((reprKeyed l).map fun p => if p.1.names.isSome then [] else p.2.names).flatten, Allowed (descD l) n
  | [], _ => by intro n hn; simp [reprKeyed] at hn
  | (k, e) :: r, h => by
    rw [ArraysOKK] at h
    intro n hn
    simp only [reprKeyed, List.map_cons, List.flatten_cons, List.mem_append] at hn
    rw [descD]
    rcases hn with hn | hn
    · by_cases hk : k.names.isSome = true
      · simp [hk] at hn
      · simp only [hk, Bool.false_eq_true, if_false] at hn ⊢
        exact (names_of_kids e h.1 (kids_allowed e h.1) n hn).mono fun d hd => List.mem_append_left _ hd
    · exact (reprDeps_names r h.2 n hn).mono fun d hd => List.mem_append_right _ hd
end

theorem reprExpr_names : ∀ (e : Elem), ArraysOK e → ∀ n ∈ (reprExpr e).names, Allowed (e :: descendants e) n :=
  fun e h => names_of_kids e h (kids_allowed e h)

theorem arraysOKK_mem {l : List (Key × Elem)} (h : ArraysOKK l) {k : Key} {e : Elem} (hm : (k, e) ∈ l) : ArraysOK e := by
  induction l with
  | nil => cases hm
  | cons a r ih =>
    obtain ⟨k', e'⟩ := a
    rw [ArraysOKK] at h
    rcases List.mem_cons.mp hm with he | hm
    · simp only [Prod.mk.injEq] at he; rw [he.2]; exact h.1
    · exact ih h.2 hm

theorem arraysOK_prop {c : Elem} (h : ArraysOK c) {k : Key} {e : Elem} (hm : (k, e) ∈ c.props) : ArraysOK e := by
  cases c with
  | mk cl kw items addI cont props pats addP pn deps es =>
    rw [ArraysOK] at h
    exact arraysOKK_mem h.2.2.2.2.2.1 hm

end Statham
