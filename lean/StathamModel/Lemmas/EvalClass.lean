/-
  Executing the class statement printed for an object class gives the class back (lemmas for `Props/C02`).
-/
import StathamModel.Py.EvalClass
import StathamModel.Lemmas.EvalTree
namespace Statham.PyEval

/-- the class keywords: `ObjectMeta`'s signature without `description` (printed as the docstring) -/
def sigClassKw : List Gen.Param := Gen.sigObjectMeta.filter fun p => p.name != "description"

theorem filter_kwargsOf (sig : List Gen.Param) (kw : Kw) (k : ReprKids) (q : String → Bool) :
    (kwargsOf sig kw k).filter (fun p => q p.1) = kwargsOf (sig.filter fun p => q p.name) kw k := by
  simp only [kwargsOf, List.filter_filterMap, List.filter_filter, List.filterMap_filter]
  congr 1
  funext p
  -- either side keeps `(p.name, x)` exactly when `p` is keyword-only, `q p.name` holds and `kwExpr` prints `x`
  by_cases hk : p.kind = .keywordOnly <;> by_cases hq : q p.name = true <;> cases kwExpr kw k p.name <;> simp [hk, hq]

theorem classDef_kwargs (e : Elem) :
    (classDef e).kwargs = kwargsOf sigClassKw e.kw (reprKidsOf e) := by
  unfold classDef sigClassKw
  exact filter_kwargsOf Gen.sigObjectMeta e.kw (reprKidsOf e) (fun n => n != "description")

/-- what a model class must satisfy for its class statement to determine it -/
structure ClassOK (t : St) : Prop where
  hasProps : t.kw.hasProps = true
  addProps : t.addProps.isSome = true → t.kw.addPropsB = true
  noPats : t.kw.hasPatProps = false → t.patProps = []
  noDeps : t.kw.hasDeps = false → t.deps = []
  propKeys : ∀ p ∈ t.props, BoundKey p.1
  patKeys : ∀ p ∈ t.patProps, PatKey p.1
  depKeys : ∀ p ∈ t.deps, DepOK p
  shape : t = { kw := { default := t.kw.default, const := t.kw.const, enum := t.kw.enum, required := t.kw.required,
                        hasProps := true, hasPatProps := t.kw.hasPatProps, addPropsB := t.kw.addPropsB,
                        minProperties := t.kw.minProperties, maxProperties := t.kw.maxProperties, hasDeps := t.kw.hasDeps,
                        description := t.kw.description },
                props := t.props, patProps := t.patProps, addProps := t.addProps, propNames := t.propNames, deps := t.deps }

variable {env : String → Option Elem} {rk : ReprKids} {t : St}

abbrev rowsClassKw (hk : EvalKids env rk t) (ok : ClassOK t) : List (KwRow env rk t) :=
  [kDefault, kConst, kEnum, kRequired, kMinProperties, kMaxProperties, kPatternProperties hk ok.patKeys,
   kAdditionalProperties hk ok.addProps, kPropertyNames hk, kDependencies hk ok.depKeys]

theorem fold_classKw (hk : EvalKids env rk t) (ok : ClassOK t) :
    (rowsClassKw hk ok).foldl (fun s r => r.upd s) {} =
      { t with kw := { t.kw with description := none, hasProps := false }, props := [] } := by
  conv => rhs; rw [ok.shape]
  simp only [List.foldl, fill, Bool.false_or, Bool.true_and, ite_nil ok.noPats, ite_nil ok.noDeps]

theorem kwNames_filter (sig : List Gen.Param) (q : String → Bool) :
    ∀ n ∈ kwNames (sig.filter fun p => q p.name), n ∈ kwNames sig := by
  intro n hn
  obtain ⟨p, hp, rfl⟩ := List.mem_map.mp hn
  obtain ⟨hp1, hp2⟩ := List.mem_filter.mp hp
  exact List.mem_map.mpr ⟨p, List.mem_filter.mpr ⟨(List.mem_filter.mp hp1).1, hp2⟩, rfl⟩

theorem bindLines_props (env : String → Option Elem) : ∀ (props : List (Key × Elem)), WFK env props →
    (∀ p ∈ props, BoundKey p.1) →
    bindLines env (props.map fun p => { attr := p.1.name, ann := propAnnot p.1 p.2, expr := propExpr p.1 (reprExpr p.2) }) =
      some props
  | [], _, _ => rfl
  | (k, e) :: r, hw, hk => by
    rw [WFK] at hw
    have h1 := evalV_propExpr env k _ e (eval_repr env e hw.1)
    have h2 := bindLines_props env r hw.2 fun p hp => hk p (List.mem_cons_of_mem _ hp)
    simp only [List.map_cons, bindLines, h1, h2, propEntry, boundSource_key, (hk (k, e) (List.mem_cons_self ..)).eq]

theorem evalClassDef_eq (env : String → Option Elem) (cd : ClassDef) (kv : List (String × PyVal)) (s : St)
    (ps : List (Key × Elem)) (hb : cd.base = "Object") (hkv : evalKVs env cd.kwargs = some kv)
    (hacc : accepts Gen.sigObjectMeta kv = true) (ha : applyVals {} kv = some s) (hl : bindLines env cd.props = some ps) :
    evalClassDef env cd =
      some (St.toElem (.object cd.name) { s with kw := { s.kw with description := cd.doc, hasProps := true }, props := ps }) := by
  simp only [evalClassDef, hb, hkv, hacc, ha, hl, if_true]

/-- the keywords of the class statement evaluate, are accepted by `ObjectMeta`, and build the class without its body -/
theorem classDef_kwargs_applied (e : Elem) (hk : EvalKids env (reprKidsOf e) t) (hkw : e.kw = t.kw) (ok : ClassOK t) :
    ∃ kvs, evalKVs env (classDef e).kwargs = some kvs ∧ accepts Gen.sigObjectMeta kvs = true ∧
      applyVals {} kvs = some { t with kw := { t.kw with description := none, hasProps := false }, props := [] } := by
  obtain ⟨kvs, hkv, hn, hv⟩ := applyVals_rows (rowsClassKw hk ok) {}
  refine ⟨kvs, ?_, ?_, by rw [hv, fold_classKw hk ok]⟩
  -- `exact hkv`, and `hn a h` below: `kwNames sigClassKw` evaluates to the names of `rowsClassKw`, in that order
  · rw [classDef_kwargs, kwargsOf_eq, hkw]; exact hkv
  · exact accepts_of_names _ _ fun a h => kwNames_filter Gen.sigObjectMeta (· != "description") _ (hn a h)

theorem evalClassDef_classDef (env : String → Option Elem) (n : String) (kw : Kw) (items : List Elem) (addI cont : Option Elem)
    (props pats : List (Key × Elem)) (addP pn : Option Elem) (deps : List (Key × Elem)) (els : List Elem)
    (ok : ClassOK ⟨kw, items, addI, cont, props, pats, addP, pn, deps, els⟩)
    (hi : WFL env items) (ha : WFO env addI) (hc : WFO env cont) (hp : WFK env props) (hpt : WFK env pats)
    (hap : WFO env addP) (hpn : WFO env pn) (hd : WFD env deps) (he : WFL env els) :
    evalClassDef env (classDef (.mk (.object n) kw items addI cont props pats addP pn deps els)) =
      some (.mk (.object n) kw items addI cont props pats addP pn deps els) := by
  have hk : EvalKids env (reprKidsOf (.mk (.object n) kw items addI cont props pats addP pn deps els))
      ⟨kw, items, addI, cont, props, pats, addP, pn, deps, els⟩ :=
    ⟨eval_reprList env items hi, eval_reprOpt env addI ha, eval_reprOpt env cont hc, eval_reprProps env props hp,
     eval_reprPats env pats hpt, eval_reprOpt env addP hap, eval_reprOpt env pn hpn, eval_reprDeps env deps hd,
     eval_reprList env els he⟩
  obtain ⟨kvs, hkv, hacc, hv⟩ := classDef_kwargs_applied _ hk rfl ok
  rw [evalClassDef_eq env _ kvs _ props rfl hkv hacc hv (bindLines_props env props hp ok.propKeys)]
  -- the two sides differ in `hasProps` only: `true` from the class body on the left, `kw.hasProps` on the right
  have hP : kw.hasProps = true := ok.hasProps
  cases kw
  cases hP
  rfl

/-- a class statement that can be executed in namespace `env`: the class is in the form its statement determines, and
    everything it mentions is well formed for `env` (in particular every class it refers to is already there) -/
def DeclOK (env : String → Option Elem) : Elem → Prop
  | .mk c kw items addI cont props pats addP pn deps els =>
    (∃ n, c = .object n) ∧ ClassOK ⟨kw, items, addI, cont, props, pats, addP, pn, deps, els⟩ ∧
    WFL env items ∧ WFO env addI ∧ WFO env cont ∧ WFK env props ∧ WFK env pats ∧ WFO env addP ∧ WFO env pn ∧
    WFD env deps ∧ WFL env els

/-- the classes of a module, top to bottom: each one executable in the namespace the earlier ones leave behind -/
def ChainOK (env : String → Option Elem) : List Elem → Prop
  | [] => True
  | c :: r => DeclOK env c ∧ ChainOK (fun n => if n = objName c.cls then some c else env n) r

theorem classDef_name (e : Elem) : (classDef e).name = objName e.cls := rfl

theorem execClasses_ok : ∀ (cs : List Elem) (env : String → Option Elem), ChainOK env cs →
    execClasses env (cs.map classDef) = some (cs.map fun c => (objName c.cls, c))
  | [], _, _ => rfl
  | c :: r, env, h => by
    rw [ChainOK] at h
    obtain ⟨hd, hr⟩ := h
    cases c with
    | mk cl kw items addI cont props pats addP pn deps els =>
      rw [DeclOK] at hd
      obtain ⟨⟨n, rfl⟩, ok, hi, ha, hc, hp, hpt, hap, hpn, hdd, he⟩ := hd
      have h1 := evalClassDef_classDef env n kw items addI cont props pats addP pn deps els ok hi ha hc hp hpt hap hpn hdd he
      have h2 := execClasses_ok r _ hr
      simp only [List.map_cons, execClasses, h1, classDef_name]
      exact (congrArg (Option.map _) h2).trans rfl

end Statham.PyEval
