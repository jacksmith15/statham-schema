/-
  Completeness of the orderer's emission loop on dependency tables that are transitively closed, irreflexive
  and self-contained (what `depTable` should produce for an acyclic class graph; that it does is not proved).
-/
import StathamModel.Orderer
namespace Statham

structure ClosedTable (t : List (String × List String)) : Prop where
  keysNodup : (t.map (·.1)).Nodup
  depsNodup : ∀ e ∈ t, e.2.Nodup
  depsInKeys : ∀ e ∈ t, ∀ d ∈ e.2, d ∈ t.map (·.1)
  irrefl : ∀ e ∈ t, e.1 ∉ e.2
  trans : ∀ e ∈ t, ∀ d ∈ e.2, ∀ e' ∈ t, e'.1 = d → ∀ x ∈ e'.2, x ∈ e.2

theorem ClosedTable.exists_ready {t : List (String × List String)} (h : ClosedTable t) (hne : t ≠ []) :
    ∃ e ∈ t, e.2 = [] := by
  -- from any class descend along a dependency: its list lies inside the class's own list without it, so is shorter
  have descend : ∀ n, ∀ e ∈ t, e.2.length = n → ∃ e ∈ t, e.2 = [] := by
    intro n
    induction n using Nat.strongRecOn with | _ n ih =>
    intro e he hn
    cases hd : e.2 with
    | nil => exact ⟨e, he, hd⟩
    | cons d ds =>
      have hdm : d ∈ e.2 := by rw [hd]; exact List.mem_cons_self ..
      obtain ⟨e', he', hk⟩ := List.mem_map.mp (h.depsInKeys e he d hdm)
      have hsub : e'.2 ⊆ e.2.erase d := by
        intro x hx
        have hxd : x ≠ d := fun hxd => h.irrefl e' he' (by rw [hk, ← hxd]; exact hx)
        exact (List.mem_erase_of_ne hxd).mpr (h.trans e he d hdm e' he' hk x hx)
      have hlen := List.Nodup.length_le_of_subset (h.depsNodup e' he') hsub
      rw [List.length_erase_of_mem hdm] at hlen
      have hpos := List.length_pos_of_mem hdm
      exact ih e'.2.length (by omega) e' he' rfl
  obtain ⟨e, he⟩ := List.exists_mem_of_ne_nil t hne
  exact descend _ e he rfl

theorem popNext_table {table : List (String × List String)} {n : String} {table' : List (String × List String)}
    (h : popNext table = some (n, table')) :
    (n, []) ∈ table ∧ table' = (table.filter fun x => x.1 != n).map fun x => (x.1, x.2.filter fun d => d != n) := by
  unfold popNext at h
  cases hf : table.find? (fun e => e.2.isEmpty) with
  | none => rw [hf] at h; cases h
  | some e =>
    rw [hf] at h
    cases h
    have he : e.2 = [] := by simpa using List.find?_some hf
    exact ⟨he ▸ List.mem_of_find?_eq_some hf, rfl⟩

theorem mem_popNext_table {table table' : List (String × List String)} {n : String}
    (h : popNext table = some (n, table')) {x : String × List String} (hx : x ∈ table') :
    ∃ y ∈ table, y.1 ≠ n ∧ x = (y.1, y.2.filter fun d => d != n) := by
  rw [(popNext_table h).2] at hx
  obtain ⟨y, hy, rfl⟩ := List.mem_map.mp hx
  have := List.mem_filter.mp hy
  exact ⟨y, this.1, by simpa using this.2, rfl⟩

theorem popNext_keys {table table' : List (String × List String)} {n : String}
    (h : popNext table = some (n, table')) : table'.map (·.1) = (table.map (·.1)).filter (· != n) := by
  rw [(popNext_table h).2]
  simp only [List.map_map, Function.comp_def, List.filter_map]

theorem ClosedTable.popNext {table table' : List (String × List String)} {n : String} (h : ClosedTable table)
    (hp : popNext table = some (n, table')) : ClosedTable table' := by
  have hk := popNext_keys hp
  constructor
  · rw [hk]; exact h.keysNodup.filter _
  · intro x hx
    obtain ⟨y, hy, _, rfl⟩ := mem_popNext_table hp hx
    exact (h.depsNodup y hy).filter _
  · intro x hx d hd
    obtain ⟨y, hy, _, rfl⟩ := mem_popNext_table hp hx
    have hd' := List.mem_filter.mp hd
    rw [hk]
    exact List.mem_filter.mpr ⟨h.depsInKeys y hy d hd'.1, hd'.2⟩
  · intro x hx
    obtain ⟨y, hy, _, rfl⟩ := mem_popNext_table hp hx
    intro hmem
    exact h.irrefl y hy (List.mem_filter.mp hmem).1
  · intro x hx d hd x' hx' hk' z hz
    obtain ⟨y, hy, _, rfl⟩ := mem_popNext_table hp hx
    obtain ⟨y', hy', _, rfl⟩ := mem_popNext_table hp hx'
    have hd' := List.mem_filter.mp hd
    have hz' := List.mem_filter.mp hz
    exact List.mem_filter.mpr ⟨h.trans y hy d hd'.1 y' hy' hk' z hz'.1, hz'.2⟩

theorem popNext_some_of_ready {table : List (String × List String)} (h : ∃ e ∈ table, e.2 = []) :
    ∃ n table', popNext table = some (n, table') := by
  obtain ⟨e, he, hemp⟩ := h
  unfold popNext
  cases hf : table.find? (fun e => e.2.isEmpty) with
  | none =>
    have := List.find?_eq_none.mp hf e he
    simp [hemp] at this
  | some x => exact ⟨_, _, rfl⟩

theorem popNext_length {table table' : List (String × List String)} {n : String} (h : ClosedTable table)
    (hp : popNext table = some (n, table')) : table'.length + 1 = table.length := by
  have hk := congrArg List.length (popNext_keys hp)
  have hn : n ∈ table.map (·.1) := List.mem_map.mpr ⟨_, (popNext_table hp).1, rfl⟩
  -- exactly one key equals n
  rw [← h.keysNodup.erase_eq_filter, List.length_erase_of_mem hn] at hk
  have := List.length_pos_of_mem hn
  simp only [List.length_map] at hk this
  omega

/-- **Completeness of the emission loop**: on a closed table, with at least as much fuel as entries, every class is
    emitted and nothing is left over. -/
theorem emitAll_complete : ∀ (fuel : Nat) (table : List (String × List String)), ClosedTable table →
    table.length ≤ fuel → (emitAll fuel table).2 = [] ∧ (emitAll fuel table).1.length = table.length
  | 0, table, _, hlen => by
    have : table = [] := List.length_eq_zero_iff.mp (Nat.le_zero.mp hlen)
    subst this; simp [emitAll]
  | fuel + 1, table, h, hlen => by
    by_cases hne : table = []
    · subst hne
      simp [emitAll, popNext]
    · obtain ⟨n, table', hp⟩ := popNext_some_of_ready (h.exists_ready hne)
      have hl := popNext_length h hp
      have ih := emitAll_complete fuel table' (h.popNext hp) (by omega)
      unfold emitAll
      rw [hp]
      simp only [List.length_cons]
      exact ⟨ih.1, by omega⟩

end Statham
