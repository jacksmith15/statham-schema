/-
  The serialized document always parses: `parseErr (toSchema e) = none` for every tree whose object classes have non-empty
  names (the serializer writes no unsupported keyword, only the seven type names, and a title for every class).
-/
import StathamModel.Lemmas.SerOk
import StathamModel.Lemmas.ParseErr
namespace Statham

def clsNamed : Cls → Bool
  | .object n => n != ""
  | _ => true

mutual
def namedOK : Elem → Bool
  | .mk c _ items addI cont props pats addP pn deps els =>
    clsNamed c &&
    namedL items && namedO addI && namedO cont && namedK props && namedK pats && namedO addP && namedO pn && namedK deps && namedL els
def namedO : Option Elem → Bool
  | none => true
  | some e => namedOK e
def namedL : List Elem → Bool
  | [] => true
  | e :: es => namedOK e && namedL es
def namedK : List (Key × Elem) → Bool
  | [] => true
  | (_, e) :: r => namedOK e && namedK r
end

theorem ownErr_nodeSKw (c : Cls) (kw : Kw) (props : List (Key × Elem)) (hn : clsNamed c = true) :
    ownErr (nodeSKw c kw props) = none := by
  cases c with
  | object n =>
    have hn' : n ≠ "" := by simpa [clsNamed] using hn
    show typeNameErr (nodeSKw (.object n) kw props) "object" = none
    simp [typeNameErr, nodeSKw, isObjectClass, objName, hn']
  -- the other classes: the type name `jsonTypeMapping` writes is one `typedLeaf` reads (or `array`), by evaluation
  | _ => rfl

theorem errOpt_addl (o : Option Schema) (b : Bool) (h : errOpt o = none) : errOpt (addlSchema o b) = none := by
  cases o with
  | none =>
    cases b
    · simp only [addlSchema, Bool.false_eq_true, if_false]
      rw [errOpt, parseErr]
    · simp only [addlSchema, if_true]
      rw [errOpt]
  | some s => exact h

theorem errList_membersFor (c m : Cls) {l : List Schema} (h : errList l = none) : errList (membersFor c m l) = none := by
  unfold membersFor
  split
  · exact h
  · rw [errList]

theorem errOpt_notFor (c : Cls) {l : List Schema} (h : errList l = none) : errOpt (notFor c l) = none := by
  unfold notFor
  split
  · exact errOpt_head h
  · rw [errOpt]

mutual
theorem toSchema_parses : ∀ (e : Elem), namedOK e = true → parseErr (toSchema e) = none
  | .mk c kw items addI cont props pats addP pn deps els, h => by
    rw [namedOK] at h
    simp only [Bool.and_eq_true, and_assoc] at h
    obtain ⟨h0, h1, h2, h3, h4, h5, h6, h7, h8, h9⟩ := h
    by_cases hc : c = .nothing
    · subst hc
      rw [toSchema]
      simp only [beq_self_eq_true, if_true]
      rw [parseErr]
    · have hels := tsList_parses els h9
      rw [toSchema_mk hc]
      exact parseErr_mk_none rfl (ownErr_nodeSKw c kw props h0) (tsList_parses items h1)
        (errOpt_addl _ kw.addItemsB (tsOpt_parses addI h2)) (tsOpt_parses cont h3) (tsProps_parses props h4)
        (tsPats_parses pats h5) (errOpt_addl _ kw.addPropsB (tsOpt_parses addP h6)) (tsOpt_parses pn h7)
        (tsDeps_parses deps h8) (errList_membersFor c .anyOf hels) (errList_membersFor c .oneOf hels)
        (errList_membersFor c .allOf hels) (errOpt_notFor c hels)
theorem tsOpt_parses : ∀ (o : Option Elem), namedO o = true → errOpt (tsOpt o) = none
  | none, _ => by rw [tsOpt, errOpt]
  | some e, h => by
    rw [namedO] at h
    rw [tsOpt, errOpt]
    exact toSchema_parses e h
theorem tsList_parses : ∀ (l : List Elem), namedL l = true → errList (tsList l) = none
  | [], _ => by rw [tsList, errList]
  | e :: es, h => by
    rw [namedL, Bool.and_eq_true] at h
    rw [tsList, errList, toSchema_parses e h.1]
    exact tsList_parses es h.2
theorem tsProps_parses : ∀ (l : List (Key × Elem)), namedK l = true → errNamed (tsProps l) = none
  | [], _ => by rw [tsProps, errNamed]
  | (k, e) :: r, h => by
    rw [namedK, Bool.and_eq_true] at h
    rw [tsProps, errNamed, toSchema_parses e h.1]
    exact tsProps_parses r h.2
theorem tsPats_parses : ∀ (l : List (Key × Elem)), namedK l = true → errNamed (tsPats l) = none
  | [], _ => by rw [tsPats, errNamed]
  | (k, e) :: r, h => by
    rw [namedK, Bool.and_eq_true] at h
    rw [tsPats, errNamed, toSchema_parses e h.1]
    exact tsPats_parses r h.2
theorem tsDeps_parses : ∀ (l : List (Key × Elem)), namedK l = true → errDeps (tsDeps l) = none
  | [], _ => by rw [tsDeps, errDeps]
  | (k, e) :: r, h => by
    rw [namedK, Bool.and_eq_true] at h
    rw [tsDeps, errDeps, toSchema_parses e h.1]
    simp only [ite_self]
    exact tsDeps_parses r h.2
end

end Statham
