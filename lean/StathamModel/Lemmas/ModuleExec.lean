/-
  A module generated from well-formed trees can be executed statement by statement: every class statement finds the
  classes it refers to already declared (orderer theorem + adequacy of its search), so `ChainOK` holds for what
  `emitModule` produces (lemmas for `Props/C02`).
-/
import StathamModel.Lemmas.EvalClass
import StathamModel.Lemmas.TreeGraph
import StathamModel.Props.C11
namespace Statham.PyEval
open Statham

def stOf : Elem → St
  | .mk _ kw items addI cont props pats addP pn deps els => ⟨kw, items, addI, cont, props, pats, addP, pn, deps, els⟩

/-- what `WF` asks of one node, its kids aside: an object class is in `env` under its name, which is not `NotPassed`; any
    other element is in the form its constructor leaves it in -/
def NodeFine (env : String → Option Elem) (d : Elem) : Prop :=
  (isObjectClass d.cls = true → objName d.cls ≠ "NotPassed" ∧ env (objName d.cls) = some d) ∧
  (isObjectClass d.cls = false → NodeOK d.cls (stOf d))

mutual
theorem wf_of_fine (env : String → Option Elem) : ∀ (t : Elem), NodeFine env t → (∀ d ∈ descendants t, NodeFine env d) → WF env t
  | .mk c kw items addI cont props pats addP pn deps els, ht, hd => by
    obtain ⟨hi, ha, hc, hp, hap, hpt, hpn, hdd, he⟩ := forall_mem_descendants.mp hd
    rw [WF]
    refine ⟨?_, ?_, wfl_of_fine env items hi, wfo_of_fine env addI ha, wfo_of_fine env cont hc, wfk_of_fine env props hp,
      wfk_of_fine env pats hpt, wfo_of_fine env addP hap, wfo_of_fine env pn hpn, wfd_of_fine env deps hdd,
      wfl_of_fine env els he⟩
    · intro n hn
      subst hn
      exact ht.1 rfl
    · intro hn
      refine ht.2 ?_
      -- `isObjectClass` is `false` on every class but `.object _`, which `hn` excludes
      cases c <;> first | rfl | exact absurd rfl (hn _)
theorem wfo_of_fine (env : String → Option Elem) : ∀ (o : Option Elem), (∀ d ∈ descO o, NodeFine env d) → WFO env o
  | none, _ => by rw [WFO]; trivial
  | some e, h => by
    rw [WFO]
    rw [descO] at h
    exact wf_of_fine env e (h e (List.mem_cons_self ..)) fun d hd => h d (List.mem_cons_of_mem _ hd)
theorem wfl_of_fine (env : String → Option Elem) : ∀ (l : List Elem), (∀ d ∈ descL l, NodeFine env d) → WFL env l
  | [], _ => by rw [WFL]; trivial
  | e :: r, h => by
    rw [WFL]
    rw [descL] at h
    exact ⟨wf_of_fine env e (h e (by simp)) fun d hd => h d (by simp [hd]),
           wfl_of_fine env r fun d hd => h d (by simp [hd])⟩
theorem wfk_of_fine (env : String → Option Elem) : ∀ (l : List (Key × Elem)), (∀ d ∈ descK l, NodeFine env d) → WFK env l
  | [], _ => by rw [WFK]; trivial
  | (k, e) :: r, h => by
    rw [WFK]
    rw [descK] at h
    exact ⟨wf_of_fine env e (h e (by simp)) fun d hd => h d (by simp [hd]),
           wfk_of_fine env r fun d hd => h d (by simp [hd])⟩
theorem wfd_of_fine (env : String → Option Elem) : ∀ (l : List (Key × Elem)), (∀ d ∈ descD l, NodeFine env d) → WFD env l
  | [], _ => by rw [WFD]; trivial
  | (k, e) :: r, h => by
    rw [WFD]
    rw [descD] at h
    refine ⟨?_, wfd_of_fine env r fun d hd => h d (by simp [hd])⟩
    by_cases hk : k.names.isSome = true
    · exact Or.inl hk
    · refine Or.inr (wf_of_fine env e (h e ?_) fun d hd => h d ?_)
      · simp [hk]
      · simp [hk, hd]
end

/-- the trees a module is generated from: one class per name, classes in the form their statement determines, every other
    element in the form its constructor leaves it in -/
structure ModuleOK (els : List Elem) : Prop where
  unique : ∀ a ∈ objectClasses els, ∀ b ∈ objectClasses els, objName a.cls = objName b.cls → a = b
  names : ∀ c ∈ objectClasses els, objName c.cls ≠ "NotPassed"
  classes : ∀ c ∈ objectClasses els, ClassOK (stOf c)
  nodes : ∀ d ∈ els ++ (els.map descendants).flatten, isObjectClass d.cls = false → NodeOK d.cls (stOf d)

def lookupClass (els : List Elem) (n : String) : Option Elem := (objectClasses els).find? fun c => objName c.cls == n

theorem lookupClass_spec {els : List Elem} {n : String} {c : Elem} (h : lookupClass els n = some c) :
    c ∈ objectClasses els ∧ objName c.cls = n := by
  unfold lookupClass at h
  exact ⟨List.mem_of_find?_eq_some h, by simpa using List.find?_some h⟩

theorem lookupClass_isSome {els : List Elem} {c : Elem} (hc : c ∈ objectClasses els) :
    ∃ x, lookupClass els (objName c.cls) = some x :=
  Option.isSome_iff_exists.mp (List.find?_isSome.mpr ⟨c, hc, beq_self_eq_true _⟩)

theorem lookupClass_of_mem {els : List Elem} (ok : ModuleOK els) {c : Elem} (hc : c ∈ objectClasses els) :
    lookupClass els (objName c.cls) = some c := by
  obtain ⟨x, hx⟩ := lookupClass_isSome hc
  obtain ⟨hm, hn⟩ := lookupClass_spec hx
  rw [hx, ok.unique x hm c hc hn]

/-- the counterpart of `wf_of_fine` for a class statement: the class itself need not be in the namespace yet -/
theorem declOK_of_fine (env : String → Option Elem) (c : Elem) (hobj : isObjectClass c.cls = true) (hcls : ClassOK (stOf c))
    (hfine : ∀ d ∈ descendants c, NodeFine env d) : DeclOK env c := by
  cases c with
  | mk cl kw items addI cont props pats addP pn deps els =>
    obtain ⟨fi, fa, fc, fp, fap, fpt, fpn, fd, fe⟩ := forall_mem_descendants.mp hfine
    rw [DeclOK]
    refine ⟨?_, hcls, wfl_of_fine env items fi, wfo_of_fine env addI fa, wfo_of_fine env cont fc, wfk_of_fine env props fp,
      wfk_of_fine env pats fpt, wfo_of_fine env addP fap, wfo_of_fine env pn fpn, wfd_of_fine env deps fd,
      wfl_of_fine env els fe⟩
    cases cl <;> simp [isObjectClass, Elem.cls] at hobj
    exact ⟨_, rfl⟩

/-- one class statement of the module is executable once the namespace holds every class declared before it -/
theorem declOK_of_module (els : List Elem) (ok : ModuleOK els) (order pre suf : List String) (n : String)
    (ho : ordererTree els = .ok order) (hsplit : order = pre ++ n :: suf) (c : Elem) (hc : lookupClass els n = some c)
    (env : String → Option Elem)
    (henv : ∀ d ∈ objectClasses els, objName d.cls ∈ pre → env (objName d.cls) = some d) :
    DeclOK env c := by
  have hmem := (lookupClass_spec hc).1
  obtain ⟨hpool, hobj⟩ := List.mem_filter.mp hmem
  have hi : order[pre.length]? = some n := by rw [hsplit]; simp
  have htake : order.take pre.length = pre := by rw [hsplit]; simp
  refine declOK_of_fine env c hobj (ok.classes c hmem) fun d hd => ⟨fun hdo => ?_, ok.nodes d (mem_pool_of_desc els c d hpool hd)⟩
  -- an object class below `c` is declared earlier, hence in the namespace
  have hdm : d ∈ objectClasses els := objectClasses_desc els c d hmem hd hdo
  have hearlier := C11.C11_declared_after_dependencies els order ho pre.length n hi c hc d hd hdo
  rw [htake] at hearlier
  exact ⟨ok.names d hdm, henv d hdm hearlier⟩

theorem lookupClass_some_of_order (els : List Elem) (order : List String) (ho : ordererTree els = .ok order) (i : Nat) (n : String)
    (hi : order[i]? = some n) : ∃ c, lookupClass els n = some c := by
  have hmem : n ∈ (treeGraph els).order := ((C11.C11_order_sound (treeGraph els) order ho).2 i n hi).1
  simp only [treeGraph] at hmem
  obtain ⟨c, hc, hn⟩ := List.mem_map.mp hmem
  exact hn ▸ lookupClass_isSome hc

/-- every statement of the module, top to bottom, is executable in the namespace the earlier ones leave behind -/
theorem chainOK_of_module (els : List Elem) (ok : ModuleOK els) (order : List String) (ho : ordererTree els = .ok order) :
    ∀ (suf pre : List String) (env : String → Option Elem), order = pre ++ suf →
      (∀ d ∈ objectClasses els, objName d.cls ∈ pre → env (objName d.cls) = some d) →
      ChainOK env (suf.filterMap (lookupClass els))
  | [], _, _, _, _ => by simp [ChainOK]
  | n :: r, pre, env, hsplit, henv => by
    have hi : order[pre.length]? = some n := by rw [hsplit]; simp
    obtain ⟨c, hc⟩ := lookupClass_some_of_order els order ho pre.length n hi
    obtain ⟨hmem, hname⟩ := lookupClass_spec hc
    rw [List.filterMap_cons, hc]
    rw [ChainOK]
    refine ⟨declOK_of_module els ok order pre r n ho hsplit c hc env henv, ?_⟩
    refine chainOK_of_module els ok order ho r (pre ++ [n]) _ (by rw [hsplit]; simp) ?_
    intro d hd hdn
    by_cases hq : objName d.cls = objName c.cls
    · have : d = c := ok.unique d hd c hmem hq
      simp [this]
    · rcases List.mem_append.mp hdn with hp | hp
      · simp only [hq, if_false]
        exact henv d hd hp
      · rw [List.mem_singleton] at hp
        exact absurd (hp.trans hname.symm) hq

end Statham.PyEval
