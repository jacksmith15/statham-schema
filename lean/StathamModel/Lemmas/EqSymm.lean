/-
  `Element.__eq__` is symmetric on well-formed trees.
-/
import StathamModel.Lemmas.EqRefl
namespace Statham

theorem Num.eqv_symm (a b : Num) : Num.eqv a b = Num.eqv b a := BEq.comm

theorem pyEqObj_of {ys xs : List (String × JVal)}
    (h : ∀ p ∈ ys, ∃ v, JVal.lookup p.1 xs = some v ∧ JVal.pyEq p.2 v = true) : JVal.pyEqObj ys xs = true := by
  induction ys with
  | nil => rw [JVal.pyEqObj]
  | cons a r ih =>
    obtain ⟨k, w⟩ := a
    rw [JVal.pyEqObj]
    obtain ⟨v, hl, he⟩ := h (k, w) (List.mem_cons_self ..)
    simp only [hl, he, Bool.true_and]
    exact ih fun p hp => h p (List.mem_cons_of_mem _ hp)

/-- the dictionary step of symmetry: member-wise flipped equalities + equal sizes + distinct keys -/
theorem pyEqObj_symm_of_flip {xs ys : List (String × JVal)} (hdx : distinct (xs.map (·.1)) = true)
    (hdy : distinct (ys.map (·.1)) = true) (hlen : xs.length = ys.length)
    (hflip : ∀ p ∈ xs, ∃ w, JVal.lookup p.1 ys = some w ∧ JVal.pyEq w p.2 = true) : JVal.pyEqObj ys xs = true := by
  apply pyEqObj_of
  intro p hp
  obtain ⟨k', w⟩ := p
  have hsub : xs.map (·.1) ⊆ ys.map (·.1) := by
    intro k hk
    obtain ⟨q, hq, rfl⟩ := List.mem_map.mp hk
    obtain ⟨w', hl, _⟩ := hflip q hq
    exact List.mem_map.mpr ⟨(q.1, w'), lookup_some_mem hl, rfl⟩
  have hback := subset_of_nodup_length (distinct_iff_nodup.mp hdx) hsub (by simp [hlen])
  have hk' : k' ∈ xs.map (·.1) := hback (List.mem_map.mpr ⟨(k', w), hp, rfl⟩)
  obtain ⟨q, hq, hqk⟩ := List.mem_map.mp hk'
  obtain ⟨w', hl, he⟩ := hflip q hq
  have hw : JVal.lookup k' ys = some w := lookup_mem_distinct hdy hp
  rw [hqk, hw] at hl
  have : w = w' := Option.some.inj hl
  subst this
  refine ⟨q.2, ?_, he⟩
  have : (k', q.2) ∈ xs := by rw [← hqk]; exact hq
  exact lookup_mem_distinct hdx this

mutual
theorem pyEq_imp : ∀ (v w : JVal), distinctKeys v = true → distinctKeys w = true → JVal.pyEq v w = true → JVal.pyEq w v = true
  | .null, w, _, _, h => by cases w <;> simp [JVal.pyEq] at h ⊢
  | .bool a, w, _, _, h => by
    cases w with
    | bool b => simp only [JVal.pyEq, beq_iff_eq] at h ⊢; exact h.symm
    | num n => simp only [JVal.pyEq] at h ⊢; rw [Num.eqv_symm]; exact h
    | _ => simp [JVal.pyEq] at h
  | .num a, w, _, _, h => by
    cases w with
    | num b => simp only [JVal.pyEq] at h ⊢; rw [Num.eqv_symm]; exact h
    | bool b => simp only [JVal.pyEq] at h ⊢; rw [Num.eqv_symm]; exact h
    | _ => simp [JVal.pyEq] at h
  | .str a, w, _, _, h => by
    cases w with
    | str b => simp only [JVal.pyEq, beq_iff_eq] at h ⊢; exact h.symm
    | _ => simp [JVal.pyEq] at h
  | .arr xs, w, hv, hw, h => by
    cases w with
    | arr ys =>
      simp only [JVal.pyEq] at h ⊢
      exact pyEqList_imp xs ys (by simpa [distinctKeys] using hv) (by simpa [distinctKeys] using hw) h
    | _ => simp [JVal.pyEq] at h
  | .obj xs, w, hv, hw, h => by
    cases w with
    | obj ys =>
      simp only [JVal.pyEq, Bool.and_eq_true, beq_iff_eq] at h ⊢
      simp only [distinctKeys, Bool.and_eq_true] at hv hw
      refine ⟨h.1.symm, ?_⟩
      exact pyEqObj_symm_of_flip hv.1 hw.1 h.1 (pyEqObj_flip xs ys hv.2 hw.2 h.2)
    | _ => simp [JVal.pyEq] at h
theorem pyEqList_imp : ∀ (xs ys : List JVal), distinctKeys.dkL xs = true → distinctKeys.dkL ys = true →
    JVal.pyEqList xs ys = true → JVal.pyEqList ys xs = true
  | [], ys, _, _, h => by
    cases ys with
    | nil => rfl
    | cons y r => simp [JVal.pyEqList] at h
  | x :: xs, ys, hx, hy, h => by
    cases ys with
    | nil => simp [JVal.pyEqList] at h
    | cons y r =>
      simp only [JVal.pyEqList, Bool.and_eq_true] at h ⊢
      simp only [distinctKeys.dkL, Bool.and_eq_true] at hx hy
      exact ⟨pyEq_imp x y hx.1 hy.1 h.1, pyEqList_imp xs r hx.2 hy.2 h.2⟩
theorem pyEqObj_flip : ∀ (xs ys : List (String × JVal)), distinctKeys.dkKV xs = true → distinctKeys.dkKV ys = true →
    JVal.pyEqObj xs ys = true → ∀ p ∈ xs, ∃ w, JVal.lookup p.1 ys = some w ∧ JVal.pyEq w p.2 = true
  | [], _, _, _, _ => by intro p hp; cases hp
  | (k, v) :: r, ys, hx, hy, h => by
    simp only [distinctKeys.dkKV, Bool.and_eq_true] at hx
    rw [JVal.pyEqObj, Bool.and_eq_true] at h
    intro p hp
    rcases List.mem_cons.mp hp with rfl | hp
    · show ∃ w, JVal.lookup k ys = some w ∧ JVal.pyEq w v = true
      have h1 := h.1
      generalize hl : JVal.lookup k ys = o at h1
      cases o with
      | none => simp at h1
      | some w => exact ⟨w, rfl, pyEq_imp v w hx.1 (dkKV_mem hy (lookup_some_mem hl)) h1⟩
    · exact pyEqObj_flip r ys hx.2 hy h.2 p hp
end

theorem pyEq_symm (v w : JVal) (hv : distinctKeys v = true) (hw : distinctKeys w = true) : JVal.pyEq v w = JVal.pyEq w v :=
  Bool.eq_iff_iff.mpr ⟨pyEq_imp v w hv hw, pyEq_imp w v hw hv⟩

/-- `BEq.comm` with the arguments explicit, to point `rw` at one comparison -/
theorem beq_symm {α} [BEq α] [LawfulBEq α] (a b : α) : (a == b) = (b == a) := BEq.comm

theorem optEq_symm {α} (f : α → α → Bool) (x y : Option α)
    (h : ∀ a b, x = some a → y = some b → f a b = f b a) : optEq f x y = optEq f y x := by
  cases x <;> cases y <;> simp only [optEq]
  exact h _ _ rfl rfl

theorem listEq_symm {α} (f : α → α → Bool) : ∀ (x y : List α), (∀ a ∈ x, ∀ b ∈ y, f a b = f b a) →
    listEq f x y = listEq f y x
  | [], [], _ => rfl
  | [], _ :: _, _ => rfl
  | _ :: _, [], _ => rfl
  | a :: as, b :: bs, h => by
    simp only [listEq]
    rw [h a (List.mem_cons_self ..) b (List.mem_cons_self ..),
      listEq_symm f as bs fun x hx y hy => h x (List.mem_cons_of_mem _ hx) y (List.mem_cons_of_mem _ hy)]

theorem optNum_symm (x y : Option Num) : optEq Num.eqv x y = optEq Num.eqv y x :=
  optEq_symm _ _ _ fun a b _ _ => Num.eqv_symm a b

theorem Kw.eq_symm (a b : Kw) (ha : a.litsOk = true) (hb : b.litsOk = true) : Kw.eq a b = Kw.eq b a := by
  unfold Kw.litsOk at ha hb
  simp only [Bool.and_eq_true] at ha hb
  obtain ⟨⟨a1, a2⟩, a3⟩ := ha
  obtain ⟨⟨b1, b2⟩, b3⟩ := hb
  have e1 : optEq JVal.pyEq a.default b.default = optEq JVal.pyEq b.default a.default :=
    optEq_symm _ _ _ fun x y hx hy => pyEq_symm x y (by rw [hx] at a1; exact a1) (by rw [hy] at b1; exact b1)
  have e2 : optEq JVal.pyEq a.const b.const = optEq JVal.pyEq b.const a.const :=
    optEq_symm _ _ _ fun x y hx hy => pyEq_symm x y (by rw [hx] at a2; exact a2) (by rw [hy] at b2; exact b2)
  have e3 : optEq (listEq JVal.pyEq) a.enum b.enum = optEq (listEq JVal.pyEq) b.enum a.enum :=
    optEq_symm _ _ _ fun x y hx hy => listEq_symm _ x y fun u hu w hw => pyEq_symm u w
      (by rw [hx] at a3; simp only [optAll, List.all_eq_true] at a3; exact a3 u hu)
      (by rw [hy] at b3; simp only [optAll, List.all_eq_true] at b3; exact b3 w hw)
  unfold Kw.eq
  rw [e1, e2, e3, beq_symm a.itemsKind, beq_symm a.addItemsB, optNum_symm a.minItems, optNum_symm a.maxItems,
    beq_symm a.uniqueItems, optNum_symm a.minimum, optNum_symm a.maximum, optNum_symm a.exclusiveMinimum,
    optNum_symm a.exclusiveMaximum, optNum_symm a.multipleOf, beq_symm a.format, beq_symm a.pattern,
    optNum_symm a.minLength, optNum_symm a.maxLength, beq_symm a.required, beq_symm a.hasProps, beq_symm a.hasPatProps,
    beq_symm a.addPropsB, optNum_symm a.minProperties, optNum_symm a.maxProperties, beq_symm a.hasDeps,
    beq_symm a.description]

theorem Cls.sameClass_symm (a b : Cls) : Cls.sameClass a b = Cls.sameClass b a := by
  unfold Cls.sameClass
  split
  · rfl
  · split
    · rename_i h; exact absurd rfl (h _ _ rfl)
    · exact BEq.comm

theorem keyedFind_some {α} {n : String} {l : List (Key × α)} {q : Key × α} (h : keyedFind n l = some q) :
    q ∈ l ∧ q.1.name = n := by
  induction l with
  | nil => simp [keyedFind] at h
  | cons a r ih =>
    obtain ⟨k, x⟩ := a
    unfold keyedFind at h
    by_cases e : k.name = n
    · simp only [e, if_true, Option.some.injEq] at h
      subst h
      exact ⟨List.mem_cons_self .., e⟩
    · simp only [e, if_false] at h
      exact ⟨List.mem_cons_of_mem _ (ih h).1, (ih h).2⟩

/-- `all(k in other and R((k, v), (k, other[k])) for k, v in l.items())`: what `eqProps`, `eqKeyed` and `eqDeps`
    compute, each with its own comparison `R` of two entries -/
def keyedAll {α} (R : Key × α → Key × α → Bool) (l other : List (Key × α)) : Bool :=
  l.all fun p => (keyedFind p.1.name other).any (R p)

theorem keyedAll_iff {α} {R : Key × α → Key × α → Bool} {l other : List (Key × α)} :
    keyedAll R l other = true ↔ ∀ p ∈ l, ∃ q, keyedFind p.1.name other = some q ∧ R p q = true := by
  simp only [keyedAll, List.all_eq_true, Option.any_eq_true]

/-- the pigeonhole step: with distinct keys on both sides and equal sizes, "every entry of `xs` has a partner in
    `ys`" turns round -/
theorem keyedAll_flip {α} {R S : Key × α → Key × α → Bool} {xs ys : List (Key × α)}
    (hdx : distinct (xs.map (·.1.name)) = true) (hdy : distinct (ys.map (·.1.name)) = true) (hlen : xs.length = ys.length)
    (hRS : ∀ p ∈ xs, ∀ q ∈ ys, R p q = true → S q p = true) (h : keyedAll R xs ys = true) : keyedAll S ys xs = true := by
  rw [keyedAll_iff] at h ⊢
  intro q hq
  have hsub : xs.map (·.1.name) ⊆ ys.map (·.1.name) := by
    intro k hk
    obtain ⟨p, hp, rfl⟩ := List.mem_map.mp hk
    obtain ⟨q', hf, _⟩ := h p hp
    exact List.mem_map.mpr ⟨q', (keyedFind_some hf).1, (keyedFind_some hf).2⟩
  have hback := subset_of_nodup_length (distinct_iff_nodup.mp hdx) hsub (by simp [hlen])
  obtain ⟨p, hp, hpn⟩ := List.mem_map.mp (hback (List.mem_map.mpr ⟨q, hq, rfl⟩))
  obtain ⟨q', hf, hR⟩ := h p hp
  have hq' : keyedFind p.1.name ys = some q := by rw [hpn]; exact keyedFind_mem hdy hq
  cases hf.symm.trans hq'
  exact ⟨p, by rw [← hpn]; exact keyedFind_mem hdx hp, hRS p hp q hq hR⟩

theorem wfK_mem {l : List (Key × Elem)} (h : wfK l = true) {p : Key × Elem} (hp : p ∈ l) : wfElem p.2 = true := by
  induction l with
  | nil => cases hp
  | cons a r ih =>
    obtain ⟨k, e⟩ := a
    rw [wfK, Bool.and_eq_true] at h
    rcases List.mem_cons.mp hp with rfl | hp
    · exact h.1
    · exact ih h.2 hp

def propEq (p q : Key × Elem) : Bool := elemEq p.2 q.2 && p.1.required == q.1.required && p.1.src == q.1.src

def depEq (p q : Key × Elem) : Bool :=
  match p.1.names, q.1.names with
  | some l, some l' => l == l'
  | none, none => elemEq p.2 q.2
  | _, _ => false

theorem eqProps_eq (other : List (Key × Elem)) : ∀ l, eqProps l other = keyedAll propEq l other
  | [] => by rw [eqProps]; rfl
  | (k, e) :: r => by
    rw [eqProps, eqProps_eq other r, keyedAll, keyedAll, List.all_cons]
    cases keyedFind k.name other <;> rfl

theorem eqKeyed_eq (other : List (Key × Elem)) : ∀ l, eqKeyed l other = keyedAll (fun p q => elemEq p.2 q.2) l other
  | [] => by rw [eqKeyed]; rfl
  | (k, e) :: r => by
    rw [eqKeyed, eqKeyed_eq other r, keyedAll, keyedAll, List.all_cons]
    cases keyedFind k.name other <;> rfl

theorem eqDeps_eq (other : List (Key × Elem)) : ∀ l, eqDeps l other = keyedAll depEq l other
  | [] => by rw [eqDeps]; rfl
  | (k, e) :: r => by
    rw [eqDeps, eqDeps_eq other r, keyedAll, keyedAll, List.all_cons]
    cases keyedFind k.name other <;> rfl

theorem propEq_imp {p q : Key × Elem} (h : elemEq p.2 q.2 = true → elemEq q.2 p.2 = true) (e : propEq p q = true) :
    propEq q p = true := by
  simp only [propEq, Bool.and_eq_true] at e ⊢
  exact ⟨⟨h e.1.1, (beq_symm ..).trans e.1.2⟩, (beq_symm ..).trans e.2⟩

theorem depEq_imp {p q : Key × Elem} (h : elemEq p.2 q.2 = true → elemEq q.2 p.2 = true) (e : depEq p q = true) :
    depEq q p = true := by
  unfold depEq at e ⊢
  cases hp : p.1.names <;> cases hq : q.1.names <;> simp only [hp, hq] at e ⊢
  · exact h e
  · cases e
  · cases e
  · exact (beq_symm ..).trans e

mutual
theorem elemEq_imp : ∀ (a b : Elem), wfElem a = true → wfElem b = true → elemEq a b = true → elemEq b a = true
  | .mk c kw items addI cont props pats addP pn deps els, b, ha, hb, h => by
    cases b with
    | mk c' kw' items' addI' cont' props' pats' addP' pn' deps' els' =>
      rw [wfElem] at ha hb
      simp only [Bool.and_eq_true] at ha hb
      obtain ⟨⟨⟨⟨⟨⟨⟨⟨⟨⟨⟨⟨ak, adp⟩, adq⟩, add⟩, a1⟩, a2⟩, a3⟩, a4⟩, a5⟩, a6⟩, a7⟩, a8⟩, a9⟩ := ha
      obtain ⟨⟨⟨⟨⟨⟨⟨⟨⟨⟨⟨⟨bk, bdp⟩, bdq⟩, bdd⟩, b1⟩, b2⟩, b3⟩, b4⟩, b5⟩, b6⟩, b7⟩, b8⟩, b9⟩ := hb
      rw [elemEq] at h ⊢
      simp only [Elem.cls, Elem.kw, Elem.items, Elem.addItems, Elem.contains, Elem.props, Elem.patProps,
        Elem.addProps, Elem.propNames, Elem.deps, Elem.elements, Bool.and_eq_true, beq_iff_eq] at h ⊢
      obtain ⟨⟨⟨⟨⟨⟨⟨⟨⟨⟨hc, hk⟩, hi⟩, hai⟩, hco⟩, ⟨hpl, hp⟩⟩, ⟨hql, hq⟩⟩, hap⟩, hpn⟩, ⟨hdl, hd⟩⟩, he⟩ := h
      refine ⟨⟨⟨⟨⟨⟨⟨⟨⟨⟨?_, ?_⟩, ?_⟩, ?_⟩, ?_⟩, ⟨hpl.symm, ?_⟩⟩, ⟨hql.symm, ?_⟩⟩, ?_⟩, ?_⟩, ⟨hdl.symm, ?_⟩⟩, ?_⟩
      · rw [Cls.sameClass_symm]; exact hc
      · rw [Kw.eq_symm kw' kw bk ak]; exact hk
      · exact eqList_imp items items' a1 b1 hi
      · exact eqOpt_imp addI addI' a2 b2 hai
      · exact eqOpt_imp cont cont' a3 b3 hco
      · rw [eqProps_eq] at hp ⊢
        exact keyedAll_flip adp bdp hpl (fun p hp q hq => propEq_imp (keyed_imp props a4 p hp q.2 (wfK_mem b4 hq))) hp
      · rw [eqKeyed_eq] at hq ⊢
        exact keyedAll_flip adq bdq hql (fun p hp q hq => keyed_imp pats a5 p hp q.2 (wfK_mem b5 hq)) hq
      · exact eqOpt_imp addP addP' a6 b6 hap
      · exact eqOpt_imp pn pn' a7 b7 hpn
      · rw [eqDeps_eq] at hd ⊢
        exact keyedAll_flip add bdd hdl (fun p hp q hq => depEq_imp (keyed_imp deps a8 p hp q.2 (wfK_mem b8 hq))) hd
      · exact eqList_imp els els' a9 b9 he
-- two tree arguments: the recursion is on the first
termination_by structural x => x
theorem eqOpt_imp : ∀ (o o' : Option Elem), wfO o = true → wfO o' = true → eqOpt o o' = true → eqOpt o' o = true
  | none, o', _, _, h => by
    cases o' with
    | none => exact h
    | some e => simp [eqOpt] at h
  | some e, o', ha, hb, h => by
    cases o' with
    | none => simp [eqOpt] at h
    | some e' =>
      rw [wfO] at ha hb
      rw [eqOpt] at h ⊢
      exact elemEq_imp e e' ha hb h
termination_by structural x => x
theorem eqList_imp : ∀ (l l' : List Elem), wfL l = true → wfL l' = true → eqList l l' = true → eqList l' l = true
  | [], l', _, _, h => by
    cases l' with
    | nil => exact h
    | cons e r => simp [eqList] at h
  | e :: es, l', ha, hb, h => by
    cases l' with
    | nil => simp [eqList] at h
    | cons e' es' =>
      rw [wfL, Bool.and_eq_true] at ha hb
      rw [eqList, Bool.and_eq_true] at h ⊢
      exact ⟨elemEq_imp e e' ha.1 hb.1 h.1, eqList_imp es es' ha.2 hb.2 h.2⟩
termination_by structural x => x
/-- the induction hypothesis for the entries of a keyed container -/
theorem keyed_imp : ∀ (l : List (Key × Elem)), wfK l = true → ∀ p ∈ l, ∀ b, wfElem b = true →
    elemEq p.2 b = true → elemEq b p.2 = true
  | [], _, _, hp => nomatch hp
  | (_, e) :: r, h, p, hp => by
    rw [wfK, Bool.and_eq_true] at h
    rcases List.mem_cons.mp hp with rfl | hp
    · exact fun b => elemEq_imp e b h.1
    · exact keyed_imp r h.2 p hp
termination_by structural x => x
end

/-- the partner `keyedAll R l other` finds for an entry of `l`, with a comparison that turns round with `elemEq` turned round.
    This and the three `_flip` lemmas are per-container readings of symmetry, statements in their own right: nothing below
    uses them -/
theorem keyedAll_partner {R : Key × Elem → Key × Elem → Bool}
    (hR : ∀ {p q}, (elemEq p.2 q.2 = true → elemEq q.2 p.2 = true) → R p q = true → R q p = true)
    {l other : List (Key × Elem)} (w : wfK l = true) (w' : wfK other = true) (h : keyedAll R l other = true) :
    ∀ p ∈ l, ∃ q, keyedFind p.1.name other = some q ∧ R q p = true := fun p hp => by
  obtain ⟨q, hf, hpq⟩ := keyedAll_iff.mp h p hp
  exact ⟨q, hf, hR (elemEq_imp p.2 q.2 (wfK_mem w hp) (wfK_mem w' (keyedFind_some hf).1)) hpq⟩

theorem eqProps_flip : ∀ (l other : List (Key × Elem)), wfK l = true → wfK other = true → eqProps l other = true →
    ∀ p ∈ l, ∃ q, keyedFind p.1.name other = some q ∧
      (elemEq q.2 p.2 = true ∧ (q.1.required == p.1.required) = true ∧ (q.1.src == p.1.src) = true) := by
  intro l other w w' h p hp
  obtain ⟨q, hf, hqp⟩ := keyedAll_partner propEq_imp w w' (eqProps_eq other l ▸ h) p hp
  simp only [propEq, Bool.and_eq_true] at hqp
  exact ⟨q, hf, hqp.1.1, hqp.1.2, hqp.2⟩

theorem eqKeyed_flip : ∀ (l other : List (Key × Elem)), wfK l = true → wfK other = true → eqKeyed l other = true →
    ∀ p ∈ l, ∃ q, keyedFind p.1.name other = some q ∧ elemEq q.2 p.2 = true :=
  fun l other w w' h => keyedAll_partner (R := fun p q => elemEq p.2 q.2) id w w' (eqKeyed_eq other l ▸ h)

theorem eqDeps_flip : ∀ (l other : List (Key × Elem)), wfK l = true → wfK other = true → eqDeps l other = true →
    ∀ p ∈ l, ∃ q, keyedFind p.1.name other = some q ∧ depEq q p = true :=
  fun l other w w' h => keyedAll_partner depEq_imp w w' (eqDeps_eq other l ▸ h)

theorem elemEq_symm (a b : Elem) (ha : wfElem a = true) (hb : wfElem b = true) : elemEq a b = elemEq b a :=
  Bool.eq_iff_iff.mpr ⟨elemEq_imp a b ha hb, elemEq_imp b a hb ha⟩

end Statham
