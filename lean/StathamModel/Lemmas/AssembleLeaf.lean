/-
  `mkElem` for any element class that constructs generically and any constructor signature: `Element`, the five
  scalar classes and `Array` are instances.  The filter is dealt with once (`createV_filter`: what it drops is not
  read), the keywords once (`R_createV_base`), for every class and every kind of value.
-/
import StathamModel.Lemmas.Kids
import StathamModel.Lemmas.Mask
namespace Statham

def litNames : List String := ["const", "enum"]
def numNames : List String := ["const", "enum", "minimum", "maximum", "exclusiveMinimum", "exclusiveMaximum", "multipleOf"]
def strNames : List String := ["const", "enum", "format", "pattern", "minLength", "maxLength"]
def arrNames : List String :=
  ["const", "enum", "minItems", "maxItems", "uniqueItems", "items", "additionalItems", "contains"]
def objNames : List String :=
  ["const", "enum", "required", "minProperties", "maxProperties", "properties", "patternProperties",
   "additionalProperties", "propertyNames", "dependencies"]

/-- the keywords `create` reads on a value, by the kind of the value -/
def readOn : JVal → List String
  | .num _ => numNames
  | .str _ => strNames
  | .arr _ => arrNames
  | .obj _ => objNames
  | _ => litNames

/-- the sub-schemas an element with signature `al` receives -/
def filterParts (al : List String) (p : Parts) : Parts :=
  { p with
    items := keep al "items" p.items [], addItems := keep al "additionalItems" p.addItems none,
    contains := keep al "contains" p.contains none, props := keep al "properties" p.props [],
    patProps := keep al "patternProperties" p.patProps [], addProps := keep al "additionalProperties" p.addProps none,
    propNames := keep al "propertyNames" p.propNames none, deps := keep al "dependencies" p.deps [] }

theorem acc_mkElem (env : Env) (c : Cls) (al : List String) (kw : Kw) (p : Parts) (a : Arg) :
    (mkElem c al kw p).acc env a = accCore env c (filterKw al kw) (subOf env (filterParts al p)) a := by
  rw [mkElem, Elem.acc]; rfl

/-- **what the filter drops is not read**: on a value `v`, an element built with signature `al` behaves like the
    unfiltered one as soon as `al` has the keywords `create` reads on `v` -/
theorem createV_filter (env : Env) (c : Cls) (al : List String) (kw : Kw) (p : Parts) (v : JVal)
    (h : ∀ n ∈ readOn v, n ∈ al) :
    createV env c (filterKw al kw) (subOf env (filterParts al p)) v = createV env c kw (subOf env p) v := by
  unfold createV
  cases v with
  | num x =>
    simp only [readOn, numNames, List.forall_mem_cons] at h
    obtain ⟨h1, h2, h3, h4, h5, h6, h7, -⟩ := h
    -- `constructV` on a scalar reads neither `kw` nor `sub`: `congr` closes that goal by `rfl`
    congr 1
    · simp only [validators, literalChecks, numChecks, filterKw, keep_mem h1, keep_mem h2, keep_mem h3,
        keep_mem h4, keep_mem h5, keep_mem h6, keep_mem h7]
  | str s =>
    simp only [readOn, strNames, List.forall_mem_cons] at h
    obtain ⟨h1, h2, h3, h4, h5, h6, -⟩ := h
    congr 1
    · simp only [validators, literalChecks, strChecks, filterKw, keep_mem h1, keep_mem h2, keep_mem h3,
        keep_mem h4, keep_mem h5, keep_mem h6]
  | null | bool b =>
    simp only [readOn, litNames, List.forall_mem_cons] at h
    congr 1
    · simp only [validators, literalChecks, filterKw, keep_mem h.1, keep_mem h.2.1]
  | arr xs =>
    simp only [readOn, arrNames, List.forall_mem_cons] at h
    obtain ⟨h1, h2, h3, h4, h5, h6, h7, h8, -⟩ := h
    congr 1
    · simp only [validators, literalChecks, arrChecks, additionalItemsCheck, containsCheck, filterKw, subOf,
        filterParts, keep_mem h1, keep_mem h2, keep_mem h3, keep_mem h4, keep_mem h5, keep_mem h6,
        keep_mem h7, keep_mem h8]
      rfl
    · have hI := itemsCallFrom_congr vAlg (kw' := filterKw al kw) (kw := kw)
        (sub' := subOf env (filterParts al p)) (sub := subOf env p)
        (by simp only [filterKw, keep_mem h6]) (by simp only [filterKw, keep_mem h7])
        (by simp only [subOf, filterParts, keep_mem h6]) (by simp only [subOf, filterParts, keep_mem h7]) xs 0
      simp only [constructV, hI]
      rfl
  | obj kvs =>
    simp only [readOn, objNames, List.forall_mem_cons] at h
    obtain ⟨h1, h2, h3, h4, h5, h6, h7, h8, h9, h10, -⟩ := h
    congr 1
    · simp only [validators, literalChecks, objChecks, requiredNames, propNamesCheck, depElemsCheck, depNamesOf,
        additionalPropsCheck, filterKw, subOf, filterParts, keep_mem h1, keep_mem h2, keep_mem h3,
        keep_mem h4, keep_mem h5, keep_mem h6, keep_mem h7, keep_mem h8, keep_mem h9,
        keep_mem h10]
      rfl
    · have hP := propsOuts_congr vAlg env (kw' := filterKw al kw) (kw := kw)
        (sub' := subOf env (filterParts al p)) (sub := subOf env p)
        (by simp only [filterKw, keep_mem h8]) (by simp only [subOf, filterParts, keep_mem h6])
        (by simp only [subOf, filterParts, keep_mem h7]) (by simp only [subOf, filterParts, keep_mem h8]) kvs
      simp only [constructV, hP]
      rfl

/-- classes whose `construct` is the generic one or `Number.construct` -/
def Cls.constructsGenerically : Cls → Bool
  | .not | .anyOf | .oneOf | .allOf | .object _ => false
  | _ => true

theorem R_constructV_scalar (env : Env) (c : Cls) (kw : Kw) (sub : VSub) (v : JVal) (hc : c.constructsGenerically = true)
    (ht : typeOk c v = true) (hv : ∀ xs, v ≠ .arr xs) (hv' : ∀ kvs, v ≠ .obj kvs) :
    R (constructV env c kw sub v) true := by
  cases c with
  | not | anyOf | oneOf | allOf | object _ => cases hc
  | number =>
    cases v with
    | num x => simp only [constructV]; cases asDouble x <;> first | exact R.crash _ | exact R.pass
    | _ => simp [typeOk] at ht
  | _ =>
    cases v with
    | arr xs => exact absurd rfl (hv xs)
    | obj kvs => exact absurd rfl (hv' kvs)
    | _ => exact R.pass

theorem constructV_generic_arr (env : Env) (c : Cls) (kw : Kw) (sub : VSub) (xs : List JVal) (hc : c.constructsGenerically = true)
    (ht : typeOk c (.arr xs) = true) :
    constructV env c kw sub (.arr xs) = V.all id (itemsCallFrom vAlg kw sub 0 xs) := by
  cases c with
  | not | anyOf | oneOf | allOf | object _ => cases hc
  | number => cases ht
  | _ => rfl

theorem constructV_generic_obj (env : Env) (c : Cls) (kw : Kw) (sub : VSub) (kvs : List (String × JVal))
    (hc : c.constructsGenerically = true) (ht : typeOk c (.obj kvs) = true) :
    constructV env c kw sub (.obj kvs) = V.all (fun o => o.2) (propsOuts vAlg env kw sub kvs) := by
  cases c with
  | not | anyOf | oneOf | allOf | object _ => cases hc
  | number => cases ht
  | _ => rfl

variable {env : Env} {cx : PCtx} {k : SKw} {kids : Kids} {σ : D6.SSub}

/-- the unfiltered keywords of a schema object against the Draft-6 clauses, for every class that constructs generically, on the
    values it lets through -/
theorem R_createV_base (c : Cls) (d : Option JVal)
    (K : KidsRel env kids σ) (N : NodeOK cx k kids σ) (hc : c.constructsGenerically = true) (v : JVal) (ht : typeOk c v = true)
    (hv : distinctKeys v = true) :
    R (createV env c (baseKw k (partsOf cx k kids) d) (subOf env (partsOf cx k kids)) v) (restOk env false k σ v) := by
  unfold createV validators restOk
  rw [ht, literalChecks_spec k _ d v N.lit, V.ofBool_true, V.and_pass_left]
  cases v with
  | arr xs =>
    simp only [constructV_generic_arr env c _ _ xs hc ht, arrChecks_spec k _ d xs]
    have hA := R_array (baseKw k (partsOf cx k kids) d) k (subOf env (partsOf cx k kids)) σ xs rfl
      (accList_rel K.items)
      N.items
      (accAddl_rel K.addItems) (accOpt_rel K.contains) (distinctKeys_arr hv)
    have := R.and (R.ofBool (D6.literalOk k (.arr xs))) (R.and (R.ofBool (D6.arrOk k xs)) hA)
    refine this.congr2 ?_ ?_ <;> ac_rfl
  | obj kvs =>
    have hap : additionalPropsCheck env c (baseKw k (partsOf cx k kids) d) (subOf env (partsOf cx k kids)) kvs = .pass := by
      cases c <;> first | rfl | cases hc
    simp only [constructV_generic_obj env c _ _ kvs hc ht, hap, V.and_pass_right]
    have S := setup_untyped K N (baseKw k (partsOf cx k kids) d) rfl
    have hO := R_object (env := env) (k := k) (fun _ => false) kvs S hv rfl rfl
      (by rw [S.split, List.append_nil]; exact required_strict env cx k kids σ d _ kvs N.propsNonempty)
      (accOpt_rel K.propNames) (orderDeps_acc env kids.deps) (deps_rel K.deps)
    have := R.and (R.ofBool (D6.literalOk k (.obj kvs))) hO
    refine this.congr2 ?_ ?_ <;> ac_rfl
  | num x =>
    simp only [numChecks_spec k _ d x N.mul, V.ofBool_and]
    exact (R.and (R.ofBool _) (R_constructV_scalar env c _ _ _ hc ht nofun nofun)).congr (Bool.and_true _)
  | str s =>
    simp only [strChecks_spec env k _ d s, V.ofBool_and]
    exact (R.and (R.ofBool _) (R_constructV_scalar env c _ _ _ hc ht nofun nofun)).congr (Bool.and_true _)
  | null | bool b =>
    simp only [V.and_pass_right]
    exact R.and (R.ofBool _) (R_constructV_scalar env c _ _ _ hc ht nofun nofun)

/-- **`mkElem` for any class that constructs generically and any signature**: the element refines "type check of the class, then every
    keyword of the schema object", provided the signature has the keywords read on the values the class lets through -/
theorem RC_mkElem (c : Cls) (al : List String)
    (d : Option JVal) (K : KidsRel env kids σ) (N : NodeOK cx k kids σ) (hc : c.constructsGenerically = true)
    (hal : ∀ v, typeOk c v = true → ∀ n ∈ readOn v, n ∈ al) :
    RC ((mkElem c al (baseKw k (partsOf cx k kids) d) (partsOf cx k kids)).acc env)
      (fun v => typeOk c v && restOk env false k σ v) := by
  refine ⟨fun v hv => ?_, acc_notPassed_ne_reject env _⟩
  rw [acc_mkElem]
  simp only [accCore]
  cases ht : typeOk c v with
  | false => exact R_of_ne_pass (createV_type_fail _ _ _ _ _ ht)
  | true =>
    rw [createV_filter env c al _ _ v (hal v ht), Bool.true_and]
    exact R_createV_base c d K N hc v ht hv

/-- `Element` takes every validation keyword.  (Membership by position: `decide` compares the strings, at three
    times the cost.) -/
theorem sigElement_has :
    litNames ++ numNames ++ strNames ++ arrNames ++ objNames ⊆ Gen.Param.names Gen.sigElement := by
  simp only [litNames, numNames, strNames, arrNames, objNames, List.cons_append, List.nil_append, List.cons_subset,
    List.nil_subset, and_true]
  repeat' constructor

theorem RC_untyped (d : Option JVal) (K : KidsRel env kids σ) (N : NodeOK cx k kids σ) :
    RC ((mkElem .element (Gen.Param.names Gen.sigElement) (baseKw k (partsOf cx k kids) d)
          (partsOf cx k kids)).acc env) (restOk env false k σ) := by
  refine (RC_mkElem .element _ d K N rfl fun v _ n hn => sigElement_has ?_).congr fun _ _ => rfl
  cases v <;> simp only [readOn] at hn <;> simp only [List.mem_append, hn, true_or, or_true]

/-- a class that lets through values of one kind, never an object: its JSON type name stands for its type check,
    and `required` may be read either way.  For a concrete class and signature the last two hypotheses are closed the
    same way every time, hence the defaults. -/
theorem RC_leaf (c : Cls) (t : String) (names al : List String) (d : Option JVal) (K : KidsRel env kids σ)
    (N : NodeOK cx k kids σ) (lenient : Bool) (hc : c.constructsGenerically = true) (hty : ∀ v, typeOk c v = D6.typeMatch t v)
    (hobj : ∀ kvs, typeOk c (.obj kvs) = false)
    (hkind : ∀ v, typeOk c v = true → readOn v = names := by intro v h; cases v <;> first | rfl | cases h)
    (hal : ∀ n ∈ names, n ∈ al := by decide) :
    RC ((mkElem c al (baseKw k (partsOf cx k kids) d) (partsOf cx k kids)).acc env)
      (fun v => D6.typeMatch t v && restOk env lenient k σ v) := by
  refine (RC_mkElem c al d K N hc fun v ht n hn => hal n (hkind v ht ▸ hn)).congr fun v _ => ?_
  rw [← hty]
  cases v with
  | obj kvs => rw [hobj]; rfl
  | _ => rfl

theorem RC_arrayElem (d : Option JVal) (K : KidsRel env kids σ) (N : NodeOK cx k kids σ) (lenient : Bool) :
    RC ((mkElem .array (Gen.Param.names Gen.sigArray) (baseKw k (partsOf cx k kids) d) (partsOf cx k kids)).acc env)
      (fun v => D6.typeMatch "array" v && restOk env lenient k σ v) :=
  RC_leaf .array "array" arrNames _ d K N lenient rfl (fun v => by cases v <;> rfl) (fun _ => rfl)

/-- `_parse_array`: without `items` the parser passes `items=Element()`, which is the same schema with
    `"items": true` -/
theorem RC_array (d : Option JVal) (K : KidsRel env kids σ) (N : NodeOK cx k kids σ) (lenient : Bool) :
    RC ((mkArray (baseKw k (partsOf cx k kids) d) (partsOf cx k kids)).acc env)
      (fun v => D6.typeMatch "array" v && restOk env lenient k σ v) := by
  unfold mkArray
  split
  · rename_i hk
    have K' : KidsRel env { kids with items := [Elem.trivial] } { σ with items := [fun _ => true] } :=
      { K with items := All2.cons (RC_trivial env) All2.nil }
    have N' : NodeOK cx { k with itemsKind := .single } { kids with items := [Elem.trivial] }
        { σ with items := [fun _ => true] } :=
      ⟨N.lit, N.mul, rfl, N.propNames, N.req, N.inj, N.synth, N.nonempty⟩
    refine (RC_arrayElem d K' N' lenient).congr fun v _ => ?_
    cases v with
    | arr xs =>
      have h1 : D6.itemsOk { k with itemsKind := .single } { σ with items := [fun _ => true] } xs = true :=
        List.all_eq_true.mpr fun _ _ => rfl
      have h2 : D6.itemsOk k σ xs = true := by simp only [D6.itemsOk, show k.itemsKind = .none from hk]
      simp only [restOk, h1, h2]
      rfl
    | _ => rfl
  · exact RC_arrayElem d K N lenient

end Statham
