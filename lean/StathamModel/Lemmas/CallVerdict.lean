/-
  `(e.call env a).verdict = e.acc env a`: the verdict-only semantics is exactly the verdict
  of the full call.  On the way: what `collect` / `collectKV` return, and the predicates on calls that
  `Items` / `Properties` preserve (`Alg.Closed`), instantiated for C10 (`vAlg_closed_NC`) and C04 (`C04.P_closed`).
-/
import StathamModel.Lemmas.VAlg
namespace Statham

theorem verdict_guard (g : V) (r : Res) : (Res.guard g r).verdict = g.and r.verdict := by
  cases g <;> cases r <;> rfl

theorem verdict_trivialCall (a : Arg) : (trivialCall a).verdict = trivialV a := by
  cases a <;> rfl

theorem verdict_nothingCall (a : Arg) : (nothingCall a).verdict = nothingV a := by
  cases a <;> rfl

theorem anyCrash_map (rs : List Res) : anyCrash rs = (rs.map Res.verdict).any isCrash := by
  rw [List.any_map]
  exact any_congr_mem fun r _ => by cases r <;> rfl

theorem anyReject_map (rs : List Res) : anyReject rs = (rs.map Res.verdict).any isReject := by
  rw [List.any_map]
  exact any_congr_mem fun r _ => by cases r <;> rfl

theorem firstOk_isSome (rs : List Res) : (firstOk rs).isSome = (rs.map Res.verdict).any isPass := by
  induction rs with
  | nil => rfl
  | cons r rs ih =>
    cases r with
    | ok x => simp [firstOk, Res.verdict, isPass]
    | reject => simp [firstOk, Res.verdict, isPass, ih]
    | crash => simp [firstOk, Res.verdict, isPass, ih]

theorem countOk_map (rs : List Res) : countOk rs = ((rs.map Res.verdict).filter isPass).length := by
  rw [List.filter_map, List.length_map]
  exact congrArg List.length (List.filter_congr fun r _ => by cases r <;> rfl)

theorem verdict_attempt (mode : Cls) (rs : List Res) :
    (attempt mode rs).verdict = attemptV mode (rs.map Res.verdict) := by
  unfold attempt attemptV
  rw [← anyCrash_map]
  cases hc : anyCrash rs
  · simp only [Bool.false_eq_true, if_false]
    rw [← firstOk_isSome]
    cases hf : firstOk rs with
    | none => simp [Res.verdict]
    | some r =>
      simp only [Option.isSome_some, Bool.not_true, Bool.false_eq_true, if_false]
      rw [← countOk_map, ← anyReject_map]
      cases mode
      case oneOf => by_cases h : countOk rs > 1 <;> simp [h, Res.verdict]
      case allOf => by_cases h : anyReject rs = true <;> simp [h, Res.verdict]
      all_goals rfl
  · simp [Res.verdict]

theorem verdict_allOfCall (fs : List Call) (a : Arg) :
    (allOfCall fs a).verdict = allOfV (fs.map fun f a => (f a).verdict) a := by
  cases a with
  | notPassed => rfl
  | val v =>
    simp only [allOfCall, allOfV, verdict_attempt, List.map_map]
    rfl

theorem collect_cases (rs : List Res) :
    collect rs = .crash ∨ collect rs = .reject ∨ ∃ xs, collect rs = .ok (.arr xs) ∧ rs = xs.map Res.ok := by
  induction rs with
  | nil => exact Or.inr (Or.inr ⟨[], rfl, rfl⟩)
  | cons r rs ih => rcases ih with h | h | ⟨xs, h, rfl⟩ <;> cases r <;> simp [collect, h]

theorem verdict_collect (rs : List Res) : (collect rs).verdict = V.all id (rs.map Res.verdict) := by
  induction rs with
  | nil => rfl
  | cons r rs ih =>
    have hs := collect_cases rs
    simp only [V.all, List.map_cons, List.foldr_cons, id] at *
    rw [← ih]
    rcases hs with h | h | ⟨xs, h, -⟩ <;> cases r <;> simp [collect, h, Res.verdict, V.and]

theorem collectKV_cases (rs : List (String × Res)) :
    collectKV rs = .crash ∨ collectKV rs = .reject ∨
      ∃ xs, collectKV rs = .ok (.anon xs) ∧ rs = xs.map fun kr => (kr.1, Res.ok kr.2) := by
  induction rs with
  | nil => exact Or.inr (Or.inr ⟨[], rfl, rfl⟩)
  | cons r rs ih =>
    obtain ⟨k, r⟩ := r
    rcases ih with h | h | ⟨xs, h, rfl⟩ <;> cases r <;> simp [collectKV, h]

theorem verdict_collectKV (rs : List (String × Res)) :
    (collectKV rs).verdict = V.all (fun o => o.2) (rs.map fun o => (o.1, o.2.verdict)) := by
  induction rs with
  | nil => rfl
  | cons r rs ih =>
    obtain ⟨k, r⟩ := r
    have hs := collectKV_cases rs
    simp only [V.all, List.map_cons, List.foldr_cons] at *
    rw [← ih]
    rcases hs with h | h | ⟨xs, h, -⟩ <;> cases r <;> simp [collectKV, h, Res.verdict, V.and]

theorem itemCall_tuple {ρ} {alg : Alg ρ} {kw : Kw} {sub : SubG ρ} (hk : kw.itemsKind = .tuple) (idx : Nat) :
    (∃ f ∈ sub.items, itemCall alg kw sub idx = f) ∨
    (∃ b f, sub.addItems = some (b, f) ∧ itemCall alg kw sub idx = f) ∨
    (sub.addItems = none ∧ kw.addItemsB = true ∧ itemCall alg kw sub idx = alg.trivial) ∨
    (sub.addItems = none ∧ kw.addItemsB = false ∧ itemCall alg kw sub idx = alg.nothing) := by
  unfold itemCall additionalItemCall
  rw [hk]
  cases hget : sub.items[idx]? with
  | some f => exact Or.inl ⟨f, List.mem_of_getElem? hget, rfl⟩
  | none =>
    cases hadd : sub.addItems with
    | some p => exact Or.inr (Or.inl ⟨p.1, p.2, rfl, rfl⟩)
    | none =>
      cases hb : kw.addItemsB with
      | true => exact Or.inr (Or.inr (Or.inl ⟨rfl, rfl, rfl⟩))
      | false => exact Or.inr (Or.inr (Or.inr ⟨rfl, rfl, rfl⟩))

/-- `itemCall` and `resolveCall` answer with a closure of the element, with `Element()`/`Nothing()`, or with the
    `AllOf` of several of these.  So every predicate on calls that the three constructions of `alg` preserve holds of
    whatever they answer with. -/
structure Alg.Closed {ρ} (alg : Alg ρ) (P : CallG ρ → Prop) : Prop where
  trivial : P alg.trivial
  nothing : P alg.nothing
  allOf : ∀ fs, (∀ f ∈ fs, P f) → P (alg.allOf fs)

section Closed
variable {ρ : Type} {alg : Alg ρ} {P : CallG ρ → Prop} {kw : Kw} {sub : SubG ρ}

theorem additionalItemCall_closed (hA : alg.Closed P) (ha : ∀ p, sub.addItems = some p → P p.2) :
    P (additionalItemCall alg kw sub) := by
  unfold additionalItemCall
  split
  · exact ha _ ‹_›
  · split
    · exact hA.trivial
    · exact hA.nothing

theorem itemCall_closed (hA : alg.Closed P) (hi : ∀ f ∈ sub.items, P f) (ha : ∀ p, sub.addItems = some p → P p.2)
    (idx : Nat) : P (itemCall alg kw sub idx) := by
  unfold itemCall
  split
  · exact hA.trivial
  · cases h : sub.items.head? with
    | none => exact hA.trivial
    | some f => exact hi f (List.mem_of_mem_head? h)
  · cases h : sub.items[idx]? with
    | none => exact additionalItemCall_closed hA ha
    | some f => exact hi f (List.mem_of_getElem? h)

theorem itemsCallFrom_eq (off : Nat) (xs : List JVal) :
    itemsCallFrom alg kw sub off xs = xs.mapIdx fun i x => itemCall alg kw sub (off + i) (.val x) := by
  induction xs generalizing off with
  | nil => rfl
  | cons x xs ih =>
    rw [itemsCallFrom, ih, List.mapIdx_cons]
    simp only [Nat.add_zero, Nat.add_assoc, Nat.add_comm 1]

theorem additionalPropCall_closed (hA : alg.Closed P) (ha : ∀ f, sub.addProps = some f → P f) :
    P (additionalPropCall alg kw sub) := by
  unfold additionalPropCall
  split
  · exact ha _ ‹_›
  · split
    · exact hA.trivial
    · exact hA.nothing

theorem findDeclared_eq (props : List (Key × Option JVal × CallG ρ)) (k : String) :
    findDeclared props k = (props.reverse.find? fun p => p.1.src == k).map fun p => (p.1, p.2.2) := by
  rw [findDeclared, List.foldl_eq_foldr_reverse]
  induction props.reverse with
  | nil => rfl
  | cons p l ih =>
    rw [List.foldr_cons, ih, List.find?_cons]
    cases p.1.src == k <;> rfl

theorem findDeclared_some {props : List (Key × Option JVal × CallG ρ)} {k : String} {key : Key} {f : CallG ρ}
    (h : findDeclared props k = some (key, f)) : ∃ p ∈ props, p.1 = key ∧ p.2.2 = f ∧ key.src = k := by
  rw [findDeclared_eq, Option.map_eq_some_iff] at h
  obtain ⟨p, hp, he⟩ := h
  cases he
  exact ⟨p, List.mem_reverse.mp (List.mem_of_find?_eq_some hp), rfl, rfl, by simpa using List.find?_some hp⟩

theorem resolveCall_fst (env : Env) (k : String) (a : Arg) :
    (resolveCall alg env kw sub k a).1 = match findDeclared sub.props k with
      | none => k
      | some q => q.1.name := by
  unfold resolveCall
  cases findDeclared sub.props k with
  | none => rcases matchingPats env sub.patProps k with _ | ⟨f, _ | ⟨g, fs⟩⟩ <;> rfl
  | some q => rcases matchingPats env sub.patProps k with _ | ⟨f, fs⟩ <;> rfl

/-- what `Properties.__getitem__` finds for `k`: the declared property, then the patterns that match -/
def propCandidates (env : Env) (sub : SubG ρ) (k : String) : List (CallG ρ) :=
  ((findDeclared sub.props k).map (·.2)).toList ++ matchingPats env sub.patProps k

theorem resolveCall_snd (env : Env) (k : String) (a : Arg) :
    (resolveCall alg env kw sub k a).2 = match propCandidates env sub k with
      | [] => additionalPropCall alg kw sub a
      | [f] => f a
      | fs => alg.allOf fs a := by
  unfold resolveCall propCandidates
  cases findDeclared sub.props k with
  | none => rcases matchingPats env sub.patProps k with _ | ⟨f, _ | ⟨g, fs⟩⟩ <;> rfl
  | some q => rcases matchingPats env sub.patProps k with _ | ⟨f, fs⟩ <;> rfl

theorem resolveCall_closed (hA : alg.Closed P) (hp : ∀ p ∈ sub.props, P p.2.2) (hpp : ∀ p ∈ sub.patProps, P p.2)
    (ha : ∀ f, sub.addProps = some f → P f) (env : Env) (k : String) (a : Arg) :
    ∃ f, P f ∧ (resolveCall alg env kw sub k a).2 = f a := by
  have hc : ∀ f ∈ propCandidates env sub k, P f := by
    intro f hf
    rcases List.mem_append.mp hf with hf | hf
    · obtain ⟨q, hq, rfl⟩ := Option.map_eq_some_iff.mp (Option.mem_toList.mp hf)
      obtain ⟨p, hpm, -, hpf, -⟩ := findDeclared_some (key := q.1) (f := q.2) hq
      exact hpf ▸ hp p hpm
    · obtain ⟨p, hp, rfl⟩ := List.mem_map.mp hf
      exact hpp p (List.mem_filter.mp hp).1
  rw [resolveCall_snd]
  split
  · exact ⟨_, additionalPropCall_closed hA ha, rfl⟩
  · exact ⟨_, hc _ (by simp [*]), rfl⟩
  · exact ⟨_, hA.allOf _ hc, rfl⟩

end Closed

def vd (f : Call) : CallG V := fun a => (f a).verdict

theorem map_items (sub : Sub) : (sub.map Res.verdict).items = sub.items.map vd := rfl
theorem map_elements (sub : Sub) : (sub.map Res.verdict).elements = sub.elements.map vd := rfl

theorem verdict_addlDefault (b : Bool) (a : Arg) :
    ((if b then resAlg.trivial else resAlg.nothing) a).verdict = (if b then vAlg.trivial else vAlg.nothing) a := by
  cases b
  · exact verdict_nothingCall a
  · exact verdict_trivialCall a

theorem additionalItemCall_map (kw : Kw) (sub : Sub) (a : Arg) :
    (additionalItemCall resAlg kw sub a).verdict = additionalItemCall vAlg kw (sub.map Res.verdict) a := by
  unfold additionalItemCall
  simp only [SubG.map]
  cases sub.addItems with
  | none => exact verdict_addlDefault kw.addItemsB a
  | some p => rfl

theorem itemCall_map (kw : Kw) (sub : Sub) (idx : Nat) (a : Arg) :
    (itemCall resAlg kw sub idx a).verdict = itemCall vAlg kw (sub.map Res.verdict) idx a := by
  unfold itemCall
  cases kw.itemsKind with
  | none => exact verdict_trivialCall a
  | single =>
    simp only [map_items, List.head?_map]
    cases sub.items.head? with
    | none => exact verdict_trivialCall a
    | some f => rfl
  | tuple =>
    simp only [map_items, List.getElem?_map]
    cases sub.items[idx]? with
    | none => exact additionalItemCall_map kw sub a
    | some f => rfl

theorem itemsCallFrom_map (kw : Kw) (sub : Sub) (xs : List JVal) (idx : Nat) :
    (itemsCallFrom resAlg kw sub idx xs).map Res.verdict =
      itemsCallFrom vAlg kw (sub.map Res.verdict) idx xs := by
  induction xs generalizing idx with
  | nil => rfl
  | cons x xs ih =>
    simp only [itemsCallFrom, List.map_cons, ih, itemCall_map]

theorem additionalPropCall_map (kw : Kw) (sub : Sub) (a : Arg) :
    (additionalPropCall resAlg kw sub a).verdict = additionalPropCall vAlg kw (sub.map Res.verdict) a := by
  unfold additionalPropCall
  simp only [SubG.map]
  cases sub.addProps with
  | none => exact verdict_addlDefault kw.addPropsB a
  | some p => rfl

theorem findDeclared_map (sub : Sub) (k : String) :
    findDeclared (sub.map Res.verdict).props k = (findDeclared sub.props k).map fun q => (q.1, vd q.2) := by
  simp only [findDeclared_eq, SubG.map, ← List.map_reverse, List.find?_map, Option.map_map]
  rfl

theorem matchingPats_map (env : Env) (sub : Sub) (k : String) :
    matchingPats env (sub.map Res.verdict).patProps k = (matchingPats env sub.patProps k).map vd := by
  unfold matchingPats
  simp only [SubG.map, List.filter_map, List.map_map]
  rfl

theorem propCandidates_map (env : Env) (sub : Sub) (k : String) :
    propCandidates env (sub.map Res.verdict) k = (propCandidates env sub k).map vd := by
  unfold propCandidates
  rw [findDeclared_map, matchingPats_map, List.map_append]
  cases findDeclared sub.props k <;> rfl

theorem resolveCall_map (env : Env) (kw : Kw) (sub : Sub) (k : String) (a : Arg) :
    ((resolveCall resAlg env kw sub k a).1, (resolveCall resAlg env kw sub k a).2.verdict) =
      resolveCall vAlg env kw (sub.map Res.verdict) k a := by
  refine Prod.ext ?_ ?_
  · rw [resolveCall_fst, resolveCall_fst, findDeclared_map]
    cases findDeclared sub.props k <;> rfl
  · rw [resolveCall_snd, resolveCall_snd, propCandidates_map]
    rcases propCandidates env sub k with _ | ⟨f, _ | ⟨g, fs⟩⟩
    · exact additionalPropCall_map kw sub a
    · rfl
    · exact verdict_allOfCall _ a

theorem visitKeys_map (sub : Sub) (kvs : List (String × JVal)) :
    visitKeys (sub.map Res.verdict) kvs = visitKeys sub kvs := by
  unfold visitKeys
  simp only [SubG.map, List.map_map]
  rfl

theorem propsOuts_map (env : Env) (kw : Kw) (sub : Sub) (kvs : List (String × JVal)) :
    (propsOuts resAlg env kw sub kvs).map (fun o => (o.1, o.2.verdict)) =
      propsOuts vAlg env kw (sub.map Res.verdict) kvs := by
  unfold propsOuts
  rw [visitKeys_map, List.map_map]
  apply List.map_congr_left
  intro k _
  exact resolveCall_map env kw sub k (argOf kvs k)

theorem validators_map (env : Env) (c : Cls) (kw : Kw) (sub : Sub) (v : JVal) :
    validators Res.verdict env c kw sub v = validators id env c kw (sub.map Res.verdict) v := by
  unfold validators
  cases v with
  | arr xs =>
    simp only [additionalItemsCheck, containsCheck, SubG.map, List.length_map]
    cases sub.contains <;> cases sub.addItems <;> rfl
  | obj kvs =>
    have hA : additionalPropsCheck env c kw (sub.map Res.verdict) kvs = additionalPropsCheck env c kw sub kvs := by
      unfold additionalPropsCheck
      cases c <;> simp only [SubG.map, List.any_map, Function.comp_def] <;> cases sub.addProps <;> rfl
    dsimp only
    rw [hA]
    simp only [propNamesCheck, depElemsCheck, depNamesOf, SubG.map, List.map_map, List.filterMap_map]
    cases sub.propNames <;> simp [optCheck, V.all, List.foldr_map, Function.comp_def]
  | _ => rfl

theorem verdict_propsCall (env : Env) (kw : Kw) (sub : Sub) (kvs : List (String × JVal)) :
    (propsCall env kw sub kvs).verdict =
      V.all (fun o => o.2) (propsOuts vAlg env kw (sub.map Res.verdict) kvs) := by
  rw [← propsOuts_map, ← verdict_collectKV]
  unfold propsCall
  rcases collectKV_cases (propsOuts resAlg env kw sub kvs) with h | h | ⟨xs, h, -⟩ <;> simp [h, Res.verdict]

theorem verdict_itemsCall (kw : Kw) (sub : Sub) (xs : List JVal) :
    (itemsCall kw sub xs).verdict = V.all id (itemsCallFrom vAlg kw (sub.map Res.verdict) 0 xs) := by
  rw [← itemsCallFrom_map, ← verdict_collect]
  rfl

theorem verdict_construct (env : Env) (c : Cls) (kw : Kw) (sub : Sub) (v : JVal) :
    (construct env c kw sub v).verdict = constructV env c kw (sub.map Res.verdict) v := by
  have hel : ∀ (x : JVal), (sub.elements.map fun f => f (.val x)).map Res.verdict =
      (sub.map Res.verdict).elements.map fun f => f (.val x) := by
    intro x; simp [map_elements, List.map_map, vd, Function.comp_def]
  cases c with
  | not =>
    simp only [construct, constructV, map_elements]
    cases sub.elements with
    | nil => rfl
    | cons f fs =>
      cases fs with
      | nil =>
        simp only [List.map_cons, List.map_nil, vd]
        cases f (.val v) <;> rfl
      | cons g gs => rfl
  | anyOf | oneOf | allOf => simp only [construct, constructV, verdict_attempt, hel]
  | number =>
    cases v with
    | num n =>
      simp only [construct, constructV]
      cases asDouble n <;> rfl
    | _ => rfl
  | object name =>
    cases v with
    | obj kvs =>
      simp only [construct, constructV]
      rw [← verdict_propsCall]
      rcases h : propsCall env kw sub kvs with r | _ | _
      · cases r <;> rfl
      · rfl
      · rfl
    | _ => rfl
  | element | nothing | boolean | integer | null | string | array =>
    cases v with
    | arr xs => exact verdict_itemsCall kw sub xs
    | obj kvs => exact verdict_propsCall env kw sub kvs
    | _ => rfl

theorem verdict_create (env : Env) (c : Cls) (kw : Kw) (sub : Sub) (v : JVal) :
    (create env c kw sub v).verdict = createV env c kw (sub.map Res.verdict) v := by
  unfold create createV
  rw [verdict_guard, validators_map, verdict_construct]

theorem verdict_callCore (env : Env) (c : Cls) (kw : Kw) (sub : Sub) (a : Arg) :
    (callCore env c kw sub a).verdict = accCore env c kw (sub.map Res.verdict) a := by
  unfold callCore accCore
  cases a with
  | val v => exact verdict_create env c kw sub v
  | notPassed =>
    simp only
    cases kw.default with
    | none => rfl
    | some d =>
      simp only
      rw [← verdict_create]
      cases create env c kw sub d <;> rfl

mutual
theorem call_verdict (env : Env) : ∀ (e : Elem) (a : Arg), (e.call env a).verdict = e.acc env a
  | .mk c kw items addI cont props pats addP pn deps els, a => by
    rw [Elem.call, Elem.acc, verdict_callCore]
    congr 1
    simp only [SubG.map]
    rw [callList_vd env items, callList_vd env els, callOpt_vd env cont, callOpt_vd env addP,
      callOpt_vd env pn, callAddl_vd env addI, callProps_vd env props, callKeyed_vd env pats,
      callKeyed_vd env deps]
theorem callOpt_vd (env : Env) : ∀ (o : Option Elem),
    (callOpt env o).map (fun f a => (f a).verdict) = accOpt env o
  | none => by rw [callOpt, accOpt]; rfl
  | some e => by
    rw [callOpt, accOpt, Option.map_some]
    congr 1; funext a; exact call_verdict env e a
theorem callAddl_vd (env : Env) : ∀ (o : Option Elem),
    (callAddl env o).map (fun p => (p.1, fun a => (p.2 a).verdict)) = accAddl env o
  | none => by rw [callAddl, accAddl]; rfl
  | some e => by
    rw [callAddl, accAddl, Option.map_some]
    congr 2; funext a; exact call_verdict env e a
theorem callList_vd (env : Env) : ∀ (l : List Elem),
    (callList env l).map (fun f a => (f a).verdict) = accList env l
  | [] => by rw [callList, accList]; rfl
  | e :: es => by
    rw [callList, accList, List.map_cons, callList_vd env es]
    congr 1; funext a; exact call_verdict env e a
theorem callKeyed_vd (env : Env) : ∀ (l : List (Key × Elem)),
    (callKeyed env l).map (fun p => (p.1, fun a => (p.2 a).verdict)) = accKeyed env l
  | [] => by rw [callKeyed, accKeyed]; rfl
  | (k, e) :: r => by
    rw [callKeyed, accKeyed, List.map_cons, callKeyed_vd env r]
    congr 2; funext a; exact call_verdict env e a
theorem callProps_vd (env : Env) : ∀ (l : List (Key × Elem)),
    (callProps env l).map (fun p => (p.1, p.2.1, fun a => (p.2.2 a).verdict)) = accProps env l
  | [] => by rw [callProps, accProps]; rfl
  | (k, e) :: r => by
    rw [callProps, accProps, List.map_cons, callProps_vd env r]
    congr 3; funext a; exact call_verdict env e a
end

theorem accepts_eq (env : Env) (e : Elem) (v : JVal) :
    e.accepts env v = (e.accV env v == .pass) := by
  unfold Elem.accepts Elem.accV
  rw [← call_verdict]
  cases e.call env (.val v) <;> rfl

theorem accepts_of_rel {env : Env} {e : Elem} {v : JVal} {b : Bool} (hrel : R (e.acc env (.val v)) b)
    (hnc : e.call env (.val v) ≠ .crash) : e.accepts env v = b := by
  have hnc' : e.acc env (.val v) ≠ .crash := by
    rw [← call_verdict]
    cases hc : e.call env (.val v) with
    | crash => exact absurd hc hnc
    | _ => nofun
  rw [accepts_eq, Elem.accV, hrel.eq_of_ne_crash hnc']
  cases b <;> rfl

end Statham
