/-
  Arrays: `Items`, `AdditionalItems`, `Contains` against `items` / `additionalItems` /
  `contains` of Draft 6.
-/
import StathamModel.Lemmas.AccBasics
import StathamModel.Lemmas.Scalars
namespace Statham

/-- How the model's `additionalItems` relates to the specification's.  In `elem`, `t = false` is `callAddl`'s flag "the
    element is `Nothing()`": then every value fails, which is what makes the `AdditionalItems` validator redundant. -/
inductive AddlRel : Option (Bool × CallG V) → Bool → Option D6.VF → Prop
  | absent : AddlRel none true none
  | lit (b : Bool) : AddlRel none b (some fun _ => b)
  | elem {t : Bool} {f : CallG V} {g : D6.VF} : RC f g → (t = false → ∀ x, f (.val x) ≠ .pass) →
      AddlRel (some (t, f)) true (some g)

/-- the tuple walk of `Items.__call__`, by lists instead of indices -/
def tupleGo (fs : List (CallG V)) (fa : CallG V) : List JVal → List V
  | [] => []
  | x :: xs =>
    match fs with
    | f :: fs' => f (.val x) :: tupleGo fs' fa xs
    | [] => fa (.val x) :: tupleGo [] fa xs

theorem itemsCallFrom_tuple (kw : Kw) (sub : VSub) (h : kw.itemsKind = .tuple) (xs : List JVal) (idx : Nat) :
    itemsCallFrom vAlg kw sub idx xs = tupleGo (sub.items.drop idx) (additionalItemCall vAlg kw sub) xs := by
  induction xs generalizing idx with
  | nil => rfl
  | cons x xs ih =>
    rw [itemsCallFrom, ih (idx + 1), itemCall, h]
    simp only
    cases hd : sub.items.drop idx with
    | nil =>
      have hlen : sub.items.length ≤ idx := List.drop_eq_nil_iff.mp hd
      have h1 : sub.items[idx]? = none := List.getElem?_eq_none hlen
      have h2 : sub.items.drop (idx + 1) = [] := List.drop_eq_nil_iff.mpr (by omega)
      simp [tupleGo, h1, h2]
    | cons f fs' =>
      have h1 : sub.items[idx]? = some f := by
        have := List.getElem?_drop (xs := sub.items) (i := idx) (j := 0)
        simp only [hd, Nat.add_zero] at this
        simpa using this.symm
      have h2 : sub.items.drop (idx + 1) = fs' := by
        have := List.drop_drop (l := sub.items) (i := 1) (j := idx)
        rw [hd] at this
        simpa using this.symm
      simp [tupleGo, h1, h2]

theorem itemsCallFrom_single (kw : Kw) (sub : VSub) (h : kw.itemsKind = .single) (f : CallG V)
    (fs : List (CallG V)) (hf : sub.items = f :: fs) (xs : List JVal) (idx : Nat) :
    itemsCallFrom vAlg kw sub idx xs = xs.map fun x => f (.val x) := by
  induction xs generalizing idx with
  | nil => rfl
  | cons x xs ih => rw [itemsCallFrom, ih, itemCall, h]; simp [hf]

theorem itemsOk_go_nil (σ : D6.SSub) (xs : List JVal) :
    D6.itemsOk.go σ [] xs = xs.all fun x => D6.optB σ.addItems fun f => f x := by
  cases xs with
  | nil => rfl
  | cons x xs => cases hs : σ.addItems <;> simp [D6.itemsOk.go, D6.optB, hs]

theorem tupleGo_nil (fa : CallG V) (xs : List JVal) : tupleGo [] fa xs = xs.map fun x => fa (.val x) := by
  induction xs with
  | nil => rfl
  | cons x xs ih => rw [tupleGo, ih]; rfl

theorem R_tupleGo {fs : List (CallG V)} {gs : List D6.VF} {fa : CallG V} (σ : D6.SSub)
    (h : All2 RC fs gs) (ha : ∀ x, distinctKeys x = true → R (fa (.val x)) (D6.optB σ.addItems fun f => f x))
    (xs : List JVal) (hxs : ∀ x ∈ xs, distinctKeys x = true) :
    R (V.all id (tupleGo fs fa xs)) (D6.itemsOk.go σ gs xs) := by
  induction h generalizing xs with
  | nil =>
    rw [itemsOk_go_nil, tupleGo_nil, V.all_map]
    exact R.all fun x hx => ha x (hxs x hx)
  | cons hr _ ih =>
    cases xs with
    | nil => exact R.pass
    | cons x xs =>
      simp only [tupleGo, V.all_cons, id, D6.itemsOk.go]
      exact R.and (hr.1 x (hxs x (.head _))) (ih xs fun y hy => hxs y (.tail _ hy))

theorem tupleGo_not_pass {fs : List (CallG V)} {fa : CallG V} (xs : List JVal) (hlen : fs.length < xs.length)
    (hfa : ∀ x, fa (.val x) ≠ .pass) : V.all id (tupleGo fs fa xs) ≠ .pass := by
  induction xs generalizing fs with
  | nil => simp at hlen
  | cons x xs ih =>
    cases fs with
    | nil =>
      simp only [tupleGo, V.all_cons, id]
      intro h
      exact hfa x (V.and_eq_pass.mp h).1
    | cons f fs' =>
      simp only [tupleGo, V.all_cons, id]
      intro h
      exact ih (by simpa using hlen) (V.and_eq_pass.mp h).2

theorem nothingV_not_pass (x : JVal) : nothingV (.val x) ≠ .pass := by simp [nothingV]

theorem R_contains {sub : VSub} {σ : D6.SSub} (hcont : OptRel RC sub.contains σ.contains) (xs : List JVal)
    (hxs : ∀ x ∈ xs, distinctKeys x = true) : R (containsCheck id sub xs) (D6.containsOk σ xs) := by
  unfold containsCheck D6.containsOk
  generalize sub.contains = sc at hcont
  generalize σ.contains = σc at hcont
  cases hcont with
  | none => exact R.pass
  | some hr => exact R.any fun x hx => hr.1 x (hxs x hx)

/-- the element that answers past the positional items, against the specification's `additionalItems`; when the model's
    `additionalItems` is falsy (`False`, or `Nothing()`) it passes nothing -/
theorem additionalItemCall_rel {kw : Kw} {sub : VSub} {σ : D6.SSub}
    (h : AddlRel sub.addItems kw.addItemsB σ.addItems) :
    (∀ x, distinctKeys x = true →
      R (additionalItemCall vAlg kw sub (.val x)) (D6.optB σ.addItems fun f => f x)) ∧
    ((match sub.addItems with | some (t, _) => t | none => kw.addItemsB) = false →
      ∀ x, additionalItemCall vAlg kw sub (.val x) ≠ .pass) := by
  unfold additionalItemCall
  generalize sub.addItems = sa at h
  generalize kw.addItemsB = kb at h
  generalize σ.addItems = σa at h
  cases h with
  | absent => exact ⟨fun x _ => R.pass, nofun⟩
  | lit =>
    cases kb with
    | false => exact ⟨fun x _ => R.reject, fun _ x => nofun⟩
    | true => exact ⟨fun x _ => R.pass, nofun⟩
  | @elem t f g hr hfal => exact ⟨fun x hx => hr.1 x hx, hfal⟩

theorem additionalItemsCheck_reject {kw : Kw} {sub : VSub} {xs : List JVal}
    (h : additionalItemsCheck kw sub xs = .reject) :
    sub.items.length < xs.length ∧ (match sub.addItems with | some (t, _) => t | none => kw.addItemsB) = false := by
  unfold additionalItemsCheck at h
  split at h
  · split at h
    · cases h
    · refine ⟨by omega, ?_⟩
      cases hs : sub.addItems with
      | none => simpa [hs, V.ofBool] using h
      | some p => simpa [hs, V.ofBool] using h
  · cases h

/-- The conjuncts are `createV`'s, reassociated: the two validators, then the walk of `construct`. -/
theorem R_array (kw : Kw) (k : SKw) (sub : VSub) (σ : D6.SSub) (xs : List JVal)
    (hk : kw.itemsKind = k.itemsKind)
    (hitems : All2 RC sub.items σ.items)
    (hwf : match k.itemsKind with
      | .single => σ.items.length = 1
      | _ => True)
    (hadd : AddlRel sub.addItems kw.addItemsB σ.addItems)
    (hcont : OptRel RC sub.contains σ.contains)
    (hxs : ∀ x ∈ xs, distinctKeys x = true) :
    R ((additionalItemsCheck kw sub xs).and ((containsCheck id sub xs).and (V.all id (itemsCallFrom vAlg kw sub 0 xs))))
      (D6.itemsOk k σ xs && D6.containsOk σ xs) := by
  have hc := R_contains hcont xs hxs
  cases hkind : k.itemsKind with
  | none =>
    have h1 : additionalItemsCheck kw sub xs = .pass := by simp [additionalItemsCheck, hk, hkind]
    have h2 := itemsCallFrom_none kw sub (hk.trans hkind) xs 0
    have h3 : D6.itemsOk k σ xs = true := by simp [D6.itemsOk, hkind]
    rw [h1, h2, h3]
    simpa using hc
  | single =>
    have h1 : additionalItemsCheck kw sub xs = .pass := by simp [additionalItemsCheck, hk, hkind]
    rw [hkind] at hwf
    generalize hsub : sub.items = si at hitems
    generalize hsig : σ.items = σi at hitems
    cases hitems with
    | nil => simp [hsig] at hwf
    | @cons f g fs gs hr ht =>
      have h2 := itemsCallFrom_single kw sub (hk.trans hkind) f fs hsub xs 0
      have h3 : D6.itemsOk k σ xs = xs.all g := by simp [D6.itemsOk, hkind, hsig]
      rw [h1, h2, h3, V.all_map]
      have : R (V.all (fun x => f (.val x)) xs) (xs.all g) := R.all fun x hx => hr.1 x (hxs x hx)
      simpa [Bool.and_comm] using R.and hc this
  | tuple =>
    have hkt := hk.trans hkind
    rw [itemsCallFrom_tuple kw sub hkt xs 0, List.drop_zero]
    have h3 : D6.itemsOk k σ xs = D6.itemsOk.go σ σ.items xs := by simp [D6.itemsOk, hkind]
    rw [h3]
    obtain ⟨hfa, hfalsy⟩ := additionalItemCall_rel hadd
    -- `AdditionalItems` rejects only when there are surplus items and the additional element is `Nothing()`/`False`;
    -- the walk then fails on the first surplus item too
    have hAB := R_and_redundant (R_tupleGo σ hitems hfa xs hxs) (additionalItemsCheck_ne_crash kw sub xs) fun hrej =>
      tupleGo_not_pass xs (additionalItemsCheck_reject hrej).1 (hfalsy (additionalItemsCheck_reject hrej).2)
    exact (R.and hAB hc).congr2 (by ac_rfl) rfl

end Statham
