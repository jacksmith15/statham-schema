/-
  `_parse_object`: the class built for `"type": "object"` refines the Draft-6 reading with
  the documented deviation (a required property with a default may be omitted).
-/
import StathamModel.Lemmas.Kids
import StathamModel.Lemmas.Mask
namespace Statham

/-- the synthetic required properties, as closures -/
def synthV (env : Env) (cx : PCtx) (k : SKw) (kids : Kids) : List VProp :=
  (synthNames (k.required.getD []) kids.props).map fun n => (synthKey cx n, none, Elem.trivial.acc env)

theorem accProps_class (env : Env) (cx : PCtx) (k : SKw) (kids : Kids) (σ : D6.SSub) (N : NodeOK cx k kids σ) :
    accProps env (withSynthetic cx (k.required.getD []) (buildProps cx (k.required.getD []) kids.props)) =
      declared env cx k kids ++ synthV env cx k kids := by
  rw [withSynthetic_buildProps cx _ _ N.propNames N.req N.inj, classProps, accProps_append, accProps_map]
  congr 1
  rw [accProps_eq_map, List.map_map]; rfl

theorem srcs_synthV (env : Env) (cx : PCtx) (k : SKw) (kids : Kids)
    (hne : ∀ n ∈ k.required.getD [], n ≠ "") :
    srcs (synthV env cx k kids) = synthNames (k.required.getD []) kids.props := by
  unfold srcs synthV
  rw [List.map_map]
  conv => rhs; rw [← List.map_id (synthNames _ _)]
  apply List.map_congr_left
  intro n hn
  exact src_synthKey cx n (hne n (mem_synthNames.mp hn).1)

theorem setup_class {env : Env} {cx : PCtx} {k : SKw} {kids : Kids} {σ : D6.SSub}
    (K : KidsRel env kids σ) (N : NodeOK cx k kids σ) (hobj : typeHasObject k = true) (kw : Kw)
    (sub : VSub)
    (hprops : sub.props = accProps env (withSynthetic cx (k.required.getD []) (buildProps cx (k.required.getD []) kids.props)))
    (hpats : sub.patProps = accKeyed env (kids.patProps.map fun kv => ({ name := kv.1 }, kv.2)))
    (haddp : sub.addProps = accOpt env kids.addProps.1)
    (hb : kw.addPropsB = kids.addProps.2) :
    ObjSetup kw sub σ (declared env cx k kids) (synthV env cx k kids) where
  split := by rw [hprops]; exact accProps_class env cx k kids σ N
  decl := props_rel K.props N.propsNonempty
  dist := by
    have hr : ∀ n ∈ k.required.getD [], n ≠ "" := fun n hn => N.nonempty n (List.mem_append_right _ hn)
    rw [srcs_append, srcs_declared env cx k kids N.propsNonempty, srcs_synthV env cx k kids hr]
    exact distinct_append N.propNames (distinct_filter _ N.req) fun x hx hx2 => (mem_synthNames.mp hx2).2 hx
  synth := by
    intro p hp a
    obtain ⟨n, _, rfl⟩ := List.mem_map.mp hp
    exact acc_trivial env a
  perm := by
    intro hne x
    rcases N.synth hobj with h | h
    · have hK := K.addProps
      rw [h] at hK
      generalize σ.addProps = sa at hK
      cases hK with
      | absent => rfl
      | lit => rfl
    · refine absurd ?_ hne
      have : synthNames (k.required.getD []) kids.props = [] :=
        List.eq_nil_iff_forall_not_mem.mpr fun n hn => (mem_synthNames.mp hn).2 (h n (mem_synthNames.mp hn).1)
      rw [synthV, this]
      rfl
  pats := by
    rw [hpats, accKeyed_map env (fun n => ({ name := n } : Key))]
    exact pats_rel K.patProps
  addl := by rw [haddp, hb]; exact accAddlP_rel K.addProps

/-- the waiver: a declared property's schema declares a default -/
theorem spec_waived_iff {env : Env} {kids : Kids} {σ : D6.SSub} (K : KidsRel env kids σ) (n : String) :
    (σ.props.any fun p => p.1 == n && p.2.1) = true ↔
      ∃ e, (n, e) ∈ kids.props ∧ e.kw.default.isSome = true := by
  rw [List.any_eq_true]
  constructor
  · rintro ⟨p, hp, hpn⟩
    simp only [Bool.and_eq_true, beq_iff_eq] at hpn
    obtain ⟨kv, hkv, hrel⟩ := K.props.exists_left hp
    refine ⟨kv.2, ?_, ?_⟩
    · have : kv.1 = n := hrel.1.trans hpn.1
      rw [← this]; exact hkv
    · rw [← hrel.2.2]; exact hpn.2
  · rintro ⟨e, he, hdef⟩
    obtain ⟨p, hp, hrel⟩ := K.props.exists_right he
    refine ⟨p, hp, ?_⟩
    simp only [Bool.and_eq_true, beq_iff_eq]
    exact ⟨hrel.1.symm, by rw [hrel.2.2]; exact hdef⟩

/-- what the property table of a node flags as required: the names of `required` whose property (if declared)
    carries no default -/
theorem flagged_iff {env : Env} {cx : PCtx} {k : SKw} {kids : Kids} {σ : D6.SSub} (N : NodeOK cx k kids σ)
    {n : String} :
    (∃ p ∈ (declared env cx k kids ++ synthV env cx k kids).map (fun q => (q.1, q.2.1)),
        p.1.required = true ∧ p.2 = none ∧ p.1.src = n) ↔
      n ∈ k.required.getD [] ∧ ∀ e, (n, e) ∈ kids.props → e.kw.default = none := by
  have hreq : ∀ m ∈ k.required.getD [], m ≠ "" := fun m hm => N.nonempty m (List.mem_append_right _ hm)
  constructor
  · rintro ⟨p, hp, hr, hd, rfl⟩
    obtain ⟨q, hq, rfl⟩ := List.mem_map.mp hp
    rcases List.mem_append.mp hq with hq | hq
    · obtain ⟨kv, hkv, rfl⟩ := List.mem_map.mp hq
      rw [show (mkKey cx (k.required.getD []) kv.1).src = kv.1 from src_mkKey cx _ _ (N.propsNonempty kv hkv)]
      exact ⟨List.contains_iff_mem.mp hr, fun e he => (show kv.2 = e from congrArg Prod.snd (eq_of_distinct_map N.propNames hkv he rfl)) ▸ hd⟩
    · obtain ⟨m, hm, rfl⟩ := List.mem_map.mp hq
      obtain ⟨hm1, hm2⟩ := mem_synthNames.mp hm
      rw [show (synthKey cx m).src = m from src_synthKey cx m (hreq m hm1)]
      exact ⟨hm1, fun e he => absurd (List.mem_map.mpr ⟨(m, e), he, rfl⟩) hm2⟩
  · rintro ⟨hn, hnone⟩
    by_cases hdecl : n ∈ kids.props.map (·.1)
    · obtain ⟨kv, hkv, rfl⟩ := List.mem_map.mp hdecl
      exact ⟨(mkKey cx (k.required.getD []) kv.1, kv.2.kw.default),
        List.mem_map.mpr ⟨_, List.mem_append_left _ (List.mem_map.mpr ⟨kv, hkv, rfl⟩), rfl⟩,
        List.contains_iff_mem.mpr hn, hnone kv.2 hkv, src_mkKey cx _ _ (N.propsNonempty kv hkv)⟩
    · exact ⟨(synthKey cx n, none),
        List.mem_map.mpr ⟨(synthKey cx n, none, Elem.trivial.acc env),
          List.mem_append_right _ (List.mem_map.mpr ⟨n, mem_synthNames.mpr ⟨hn, hdecl⟩, rfl⟩), rfl⟩,
        rfl, rfl, src_synthKey cx n (hreq n hn)⟩

theorem required_lenient {env : Env} {cx : PCtx} {k : SKw} {kids : Kids} {σ : D6.SSub}
    (K : KidsRel env kids σ) (N : NodeOK cx k kids σ) (kw : Kw) (hreq : kw.required = none)
    (kvs : List (String × JVal)) :
    ((requiredNames kw ((declared env cx k kids ++ synthV env cx k kids).map fun q => (q.1, q.2.1))).all
        fun n => (JVal.keys kvs).contains n) = D6.requiredOk true k σ kvs := by
  apply Bool.eq_iff_iff.mpr
  simp only [D6.requiredOk, List.all_eq_true, mem_requiredNames, hreq, Option.getD_none, List.not_mem_nil, false_or,
    flagged_iff N, Bool.true_and, Bool.or_eq_true, spec_waived_iff K]
  constructor
  · intro h n hn
    by_cases hw : ∃ e, (n, e) ∈ kids.props ∧ e.kw.default.isSome = true
    · exact Or.inr hw
    · refine Or.inl (h n ⟨hn, fun e he => ?_⟩)
      cases hd : e.kw.default with
      | none => rfl
      | some d => exact absurd ⟨e, he, by rw [hd]; rfl⟩ hw
  · rintro h n ⟨hn, hnone⟩
    refine (h n hn).resolve_right ?_
    rintro ⟨e, he, hd⟩
    rw [hnone e he] at hd
    cases hd

/-- The class on an object, for any keyword record and closures that carry what `_parse_object` passes on: `RC_class`
    meets every hypothesis by `rfl` on the record `mkObject_eq` computes. -/
theorem R_class {env : Env} {cx : PCtx} {k : SKw} {kids : Kids} {σ : D6.SSub} (d : Option JVal)
    (K : KidsRel env kids σ) (N : NodeOK cx k kids σ) (hobj : typeHasObject k = true) (n : String) (kw : Kw)
    (sub : VSub) (kvs : List (String × JVal)) (hv : distinctKeys (.obj kvs) = true)
    (hc : kw.const = (baseKw k (partsOf cx k kids) d).const) (he : kw.enum = (baseKw k (partsOf cx k kids) d).enum)
    (hreq : kw.required = none) (hmin : kw.minProperties = k.minProperties)
    (hmax : kw.maxProperties = k.maxProperties) (hb : kw.addPropsB = kids.addProps.2)
    (hprops : sub.props = accProps env (withSynthetic cx (k.required.getD []) (buildProps cx (k.required.getD []) kids.props)))
    (hpats : sub.patProps = accKeyed env (kids.patProps.map fun kv => ({ name := kv.1 }, kv.2)))
    (haddp : sub.addProps = accOpt env kids.addProps.1) (hpn : sub.propNames = accOpt env kids.propNames)
    (hdeps : sub.deps = accKeyed env (orderDeps kids.deps)) :
    R (createV env (.object n) kw sub (.obj kvs)) (restOk env true k σ (.obj kvs)) := by
  unfold createV validators restOk
  simp only [typeOk, V.ofBool_true, V.and_pass_left, constructV, additionalPropsCheck, V.and_pass_right]
  have hlit : literalChecks kw (.obj kvs) = V.ofBool (D6.literalOk k (.obj kvs)) := by
    rw [← literalChecks_spec k (partsOf cx k kids) d _ N.lit]
    unfold literalChecks
    rw [hc, he]
  rw [hlit]
  have S := setup_class K N hobj kw sub hprops hpats haddp hb
  have hO := R_object (env := env) (k := k) (fun _ => true) kvs S hv hmin hmax
    (by rw [S.split]; exact required_lenient K N _ hreq kvs)
    (hpn ▸ accOpt_rel K.propNames) (hdeps.trans (orderDeps_acc env kids.deps)) (deps_rel K.deps)
  have := R.and (R.ofBool (D6.literalOk k (.obj kvs))) hO
  refine this.congr2 ?_ ?_ <;> ac_rfl

theorem RC_class {env : Env} {cx : PCtx} {k : SKw} {kids : Kids} {σ : D6.SSub} (d : Option JVal)
    (K : KidsRel env kids σ) (N : NodeOK cx k kids σ) (hobj : typeHasObject k = true) :
    RC ((mkObject cx k (baseKw k (partsOf cx k kids) d) (partsOf cx k kids)).acc env)
      (fun v => D6.typeMatch "object" v && restOk env true k σ v) := by
  refine ⟨fun v hv => ?_, acc_notPassed_ne_reject env _⟩
  rw [mkObject_eq, Elem.acc]
  simp only [accCore]
  cases v with
  | obj kvs => exact R_class d K N hobj _ _ _ kvs hv rfl rfl rfl rfl rfl rfl rfl rfl rfl rfl rfl
  | _ => exact R_of_ne_pass (createV_type_fail _ _ _ _ _ rfl)

end Statham
