/-
  What `kwExpr` and `kwargsOf` give, for an arbitrary keyword name and an arbitrary signature; and that the printed
  `required` list decodes to itself (`decodeStrs_map`).

  `kwExpr`, `setLit` and `setArg` match on string literals, and deciding one equation between two literals by
  evaluation costs as much as a small proof.  So a fact about every name is proved by one `split` (below), and a
  fact about one name by `rw [kwExpr]`, which picks the defining equation of that name; `rfl` and `simp only [kwExpr]`
  walk the whole match instead.
-/
import StathamModel.Py.Eval
namespace Statham

namespace PyEval
/-- the entry printed for one dependency: the lambda of the `dependencies` arm of `kwExpr`, named so that `Printed.deps`,
    `EvalKids.deps` and `namesKw_deps` can state it -/
def depExpr (d : Key × PyExpr) : String × PyExpr :=
  (d.1.name, match d.1.names with
    | some l => PyExpr.lit (.arr (l.map JVal.str))
    | none => d.2)
end PyEval

/-- what `kwExpr` can give: nothing, a literal, one of the rendered sub-elements, the list of items, or one of the three
    dictionaries -/
inductive Printed (k : ReprKids) : Option PyExpr → Prop
  | none : Printed k none
  | lit (v : JVal) : Printed k (some (.lit v))
  | items : Printed k (some (.list k.items))
  | props : Printed k (some (.dict (k.props.map fun p => (p.1.name, propExpr p.1 p.2))))
  | pats : Printed k (some (.dict (k.patProps.map fun p => (p.1.name, p.2))))
  | deps : Printed k (some (.dict (k.deps.map PyEval.depExpr)))
  | kid {x : PyExpr} (h : k.addItems = some x ∨ k.contains = some x ∨ k.addProps = some x ∨ k.propNames = some x ∨ x ∈ k.items) :
      Printed k (some x)

theorem Printed.map_lit {α} (k : ReprKids) (o : Option α) (f : α → JVal) : Printed k (o.map fun a => .lit (f a)) := by
  cases o
  · exact .none
  · exact .lit _

theorem Printed.ite {k : ReprKids} {x : PyExpr} (b : Bool) (h : Printed k (some x)) : Printed k (if b then some x else Option.none) := by
  cases b
  · exact .none
  · exact h

theorem Printed.opt {k : ReprKids} (o : Option PyExpr) (h : ∀ x, o = some x → Printed k (some x)) : Printed k o := by
  cases o with
  | none => exact .none
  | some x => exact h x rfl

/-- `additionalItems` / `additionalProperties`: the rendered sub-element, else `False` when the flag is off -/
theorem Printed.orFalse {k : ReprKids} (o : Option PyExpr) (b : Bool) (h : ∀ x, o = some x → Printed k (some x)) :
    Printed k (match (generalizing := false) o with
      | some e => some e
      | Option.none => if b then Option.none else some (.lit (.bool false))) := by
  cases o with
  | some x => exact h x rfl
  | none => cases b <;> constructor

theorem kwExpr_printed (kw : Kw) (k : ReprKids) (name : String) : Printed k (kwExpr kw k name) := by
  unfold kwExpr
  split
  -- `h_n`: the n-th keyword of `kwExpr`; the arms not named here print an optional literal
  case h_4 =>
    cases kw.itemsKind
    · exact .none
    · exact .opt _ fun x h => .kid (.inr (.inr (.inr (.inr (List.mem_of_head? h)))))
    · exact .items
  case h_5 => exact .orFalse _ _ fun x h => .kid (.inl h)
  case h_8 => exact .ite _ (.lit _)
  case h_9 => exact .opt _ fun x h => .kid (.inr (.inl h))
  case h_20 => exact .ite _ .props
  case h_21 => exact .ite _ .pats
  case h_22 => exact .orFalse _ _ fun x h => .kid (.inr (.inr (.inl h)))
  case h_25 => exact .opt _ fun x h => .kid (.inr (.inr (.inr (.inl h))))
  case h_26 => exact .ite _ .deps
  case h_28 => exact .none
  all_goals exact Printed.map_lit _ _ _

theorem kwExpr_items (kw : Kw) (k : ReprKids) :
    kwExpr kw k "items" = match kw.itemsKind with
      | .none => none
      | .single => k.items.head?
      | .tuple => some (.list k.items) := by
  rw [kwExpr]; rfl

theorem kwExpr_items_isSome (kw : Kw) (k : ReprKids) (h0 : kw.itemsKind ≠ .none) (h1 : kw.itemsKind = .single → k.items ≠ []) :
    ∃ x, kwExpr kw k "items" = some x := by
  rw [kwExpr_items]
  cases hk : kw.itemsKind with
  | none => exact absurd hk h0
  | single =>
    cases hi : k.items with
    | nil => exact absurd hi (h1 hk)
    | cons a r => exact ⟨a, rfl⟩
  | tuple => exact ⟨_, rfl⟩

theorem mem_kwargsOf {sig : List Gen.Param} {kw : Kw} {k : ReprKids} {name : String} {x : PyExpr} :
    (name, x) ∈ kwargsOf sig kw k ↔ (∃ p ∈ sig, p.name = name ∧ p.kind = .keywordOnly) ∧ kwExpr kw k name = some x := by
  simp only [kwargsOf, List.mem_filterMap, List.mem_filter, Option.map_eq_some_iff, Prod.mk.injEq, beq_iff_eq]
  constructor
  · rintro ⟨p, ⟨hp, hk⟩, y, hy, rfl, rfl⟩
    exact ⟨⟨p, hp, rfl, hk⟩, hy⟩
  · rintro ⟨⟨p, hp, rfl, hk⟩, hy⟩
    exact ⟨p, ⟨hp, hk⟩, x, hy, rfl, rfl⟩

theorem decodeStrs_map (l : List String) : decodeStrs (l.map JVal.str) = some l := by
  induction l with
  | nil => rfl
  | cons a r ih => simp [decodeStrs, ih]

end Statham
