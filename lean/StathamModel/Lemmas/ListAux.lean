/-
  Lists of names and association lists read as Python dicts, and the order in which `Properties.__call__` visits keys.
  Also `toDouble_small` (an integer below 2^53 is a double), which Scalars, NoCrash and C04 use.
-/
import StathamModel.Good
import StathamModel.Validate
namespace Statham

theorem distinct_cons {x : String} {xs : List String} :
    distinct (x :: xs) = true ↔ x ∉ xs ∧ distinct xs = true := by
  simp [distinct]

theorem distinct_filter {l : List String} (p : String → Bool) (h : distinct l = true) :
    distinct (l.filter p) = true := by
  induction l with
  | nil => rfl
  | cons a l ih =>
    simp only [distinct_cons] at h
    by_cases hp : p a = true
    · simp only [List.filter, hp, distinct_cons]
      exact ⟨fun hm => h.1 (List.mem_filter.mp hm).1, ih h.2⟩
    · have hp' : p a = false := by simpa using hp
      simp only [List.filter, hp']; exact ih h.2

theorem distinct_append {l₁ l₂ : List String} (h1 : distinct l₁ = true) (h2 : distinct l₂ = true)
    (hd : ∀ x ∈ l₁, x ∉ l₂) : distinct (l₁ ++ l₂) = true := by
  induction l₁ with
  | nil => simpa using h2
  | cons a l ih =>
    simp only [distinct_cons] at h1
    simp only [List.cons_append, distinct_cons, List.mem_append, not_or]
    exact ⟨⟨h1.1, hd a (List.mem_cons_self ..)⟩, ih h1.2 fun x hx => hd x (List.mem_cons_of_mem _ hx)⟩

theorem lookup_mem_distinct {k : String} {x : JVal} {kvs : List (String × JVal)}
    (hd : distinct (kvs.map (·.1)) = true) (h : (k, x) ∈ kvs) : JVal.lookup k kvs = some x := by
  induction kvs with
  | nil => cases h
  | cons kv r ih =>
    obtain ⟨k', x'⟩ := kv
    simp only [List.map_cons, distinct_cons] at hd
    rcases List.mem_cons.mp h with h1 | h1
    · cases h1; simp [JVal.lookup]
    · have hne : k ≠ k' := by
        intro e; subst e
        exact hd.1 (List.mem_map.mpr ⟨(k, x), h1, rfl⟩)
      simp [JVal.lookup, hne, ih hd.2 h1]

theorem eq_of_distinct_map {α} {f : α → String} {l : List α} (hd : distinct (l.map f) = true) {a b : α}
    (ha : a ∈ l) (hb : b ∈ l) (h : f a = f b) : a = b := by
  induction l with
  | nil => cases ha
  | cons x l ih =>
    obtain ⟨hx, hd⟩ := distinct_cons.mp hd
    rcases List.mem_cons.mp ha with rfl | ha' <;> rcases List.mem_cons.mp hb with rfl | hb'
    · rfl
    · exact absurd (h ▸ List.mem_map_of_mem hb') hx
    · exact absurd (h ▸ List.mem_map_of_mem ha') hx
    · exact ih hd ha' hb'

theorem find?_reverse {α} {p : α → Bool} {l : List α} (h : ∀ a ∈ l, ∀ b ∈ l, p a = true → p b = true → a = b) :
    l.reverse.find? p = l.find? p := by
  cases hf : l.find? p with
  | none => exact List.find?_eq_none.mpr fun a ha => List.find?_eq_none.mp hf a (List.mem_reverse.mp ha)
  | some a =>
    cases hr : l.reverse.find? p with
    | none =>
      exact absurd (List.find?_some hf)
        (List.find?_eq_none.mp hr a (List.mem_reverse.mpr (List.mem_of_find?_eq_some hf)))
    | some b =>
      rw [h b (List.mem_reverse.mp (List.mem_of_find?_eq_some hr)) a (List.mem_of_find?_eq_some hf)
        (List.find?_some hr) (List.find?_some hf)]

theorem dictGet?_mem {α} (d : List (String × α)) (k : String) (v : α) (h : dictGet? d k = some v) : (k, v) ∈ d := by
  induction d with
  | nil => simp [dictGet?] at h
  | cons p r ih =>
    obtain ⟨k0, w⟩ := p
    by_cases e : k = k0
    · simp only [dictGet?, e, if_true, Option.some.injEq] at h
      rw [e, h]; exact List.mem_cons_self ..
    · simp only [dictGet?, e, if_false] at h
      exact List.mem_cons_of_mem _ (ih h)

theorem dictGet?_none_of_keys {α} (d : List (String × α)) (k : String) (h : ∀ q ∈ d, q.1 ≠ k) : dictGet? d k = none := by
  induction d with
  | nil => rfl
  | cons p r ih =>
    obtain ⟨k0, w⟩ := p
    have : ¬ k = k0 := fun e => h (k0, w) (List.mem_cons_self ..) e.symm
    simp only [dictGet?, this, if_false]
    exact ih fun q hq => h q (List.mem_cons_of_mem _ hq)

/-- a JSON object is read like a Python dict -/
theorem lookup_eq_dictGet? (k : String) (d : List (String × JVal)) : JVal.lookup k d = dictGet? d k := by
  induction d with
  | nil => rfl
  | cons p r ih => obtain ⟨k', v⟩ := p; rw [JVal.lookup, dictGet?, ih]

theorem lookup_none {k : String} {kvs : List (String × JVal)} (h : k ∉ kvs.map (·.1)) :
    JVal.lookup k kvs = none := by
  rw [lookup_eq_dictGet?]
  exact dictGet?_none_of_keys _ _ fun q hq e => h (e ▸ List.mem_map_of_mem hq)

theorem lookup_some_mem {k : String} {x : JVal} {kvs : List (String × JVal)}
    (h : JVal.lookup k kvs = some x) : (k, x) ∈ kvs :=
  dictGet?_mem _ _ _ (lookup_eq_dictGet? k kvs ▸ h)

theorem mem_removeDups {x : String} {l : List String} : x ∈ removeDups l ↔ x ∈ l := by
  induction l with
  | nil => simp [removeDups]
  | cons a l ih =>
    simp only [removeDups, List.mem_cons, List.mem_filter, ih]
    constructor
    · rintro (h | ⟨h, _⟩)
      · exact Or.inl h
      · exact Or.inr h
    · rintro (h | h)
      · exact Or.inl h
      · by_cases e : x = a
        · exact Or.inl e
        · exact Or.inr ⟨h, by simpa using e⟩

theorem removeDups_nodup : ∀ (l : List String), (removeDups l).Nodup
  | [] => by simp [removeDups]
  | x :: xs => by
    rw [removeDups, List.nodup_cons]
    refine ⟨?_, (removeDups_nodup xs).filter _⟩
    simp [List.mem_filter]

theorem distinct_iff_nodup {l : List String} : distinct l = true ↔ l.Nodup := by
  induction l with
  | nil => simp [distinct]
  | cons a l ih => rw [distinct_cons, List.nodup_cons, ih]

theorem distinct_removeDups (l : List String) : distinct (removeDups l) = true :=
  distinct_iff_nodup.mpr (removeDups_nodup l)

theorem distinct_getD {o : Option (List String)} (h : optAll o distinct = true) : distinct (o.getD []) = true := by
  cases o with
  | none => rfl
  | some l => exact h

theorem contains_iff_mem {x : String} {l : List String} : l.contains x = true ↔ x ∈ l := by
  simp

theorem subset_of_nodup_length {α} [DecidableEq α] {xs ys : List α} (hn : xs.Nodup) (hsub : xs ⊆ ys)
    (hlen : xs.length = ys.length) : ys ⊆ xs := by
  intro k hk
  refine Classical.byContradiction fun hno => ?_
  have hsub' : xs ⊆ ys.erase k := fun x hx =>
    (List.mem_erase_of_ne fun (e : x = k) => hno (e ▸ hx)).mpr (hsub hx)
  have := List.Nodup.length_le_of_subset hn hsub'
  rw [List.length_erase] at this
  simp only [hk, if_true] at this
  have : 0 < ys.length := List.length_pos_of_mem hk
  omega

theorem distinctKeys_arr {xs : List JVal} (h : distinctKeys (.arr xs) = true) :
    ∀ x ∈ xs, distinctKeys x = true := by
  simp only [distinctKeys] at h
  induction xs with
  | nil => intro x hx; cases hx
  | cons a l ih =>
    simp only [distinctKeys.dkL, Bool.and_eq_true] at h
    intro x hx
    rcases List.mem_cons.mp hx with e | e
    · subst e; exact h.1
    · exact ih h.2 x e

theorem dkKV_mem {kvs : List (String × JVal)} (h : distinctKeys.dkKV kvs = true) {k : String} {v : JVal}
    (hm : (k, v) ∈ kvs) : distinctKeys v = true := by
  induction kvs with
  | nil => cases hm
  | cons a r ih =>
    obtain ⟨k', v'⟩ := a
    simp only [distinctKeys.dkKV, Bool.and_eq_true] at h
    rcases List.mem_cons.mp hm with he | hm
    · simp only [Prod.mk.injEq] at he; rw [he.2]; exact h.1
    · exact ih h.2 hm

theorem distinctKeys_obj {kvs : List (String × JVal)} (h : distinctKeys (.obj kvs) = true) :
    distinct (kvs.map (·.1)) = true ∧ ∀ kv ∈ kvs, distinctKeys kv.2 = true := by
  simp only [distinctKeys, Bool.and_eq_true] at h
  exact ⟨h.1, fun _ hkv => dkKV_mem h.2 hkv⟩

theorem distinctKeys_str (s : String) : distinctKeys (.str s) = true := by simp [distinctKeys]

theorem dictSet_get {α} (d : List (String × α)) (k : String) (v : α) : dictGet? (dictSet d k v) k = some v := by
  induction d with
  | nil => simp [dictSet, dictGet?]
  | cons p d ih =>
    obtain ⟨k', v'⟩ := p
    by_cases e : k = k'
    · simp [dictSet, dictGet?, e]
    · simp [dictSet, dictGet?, e, ih]

theorem dictSet_get_ne {α} (d : List (String × α)) (k k' : String) (v : α) (h : k' ≠ k) :
    dictGet? (dictSet d k v) k' = dictGet? d k' := by
  induction d with
  | nil => simp [dictSet, dictGet?, h]
  | cons p d ih =>
    obtain ⟨k2, v2⟩ := p
    by_cases e : k = k2
    · subst e; simp [dictSet, dictGet?, h]
    · by_cases e2 : k' = k2
      · simp [dictSet, dictGet?, e, e2]
      · simp [dictSet, dictGet?, e, e2, ih]

theorem dictOfList_get {α} (l : List (String × α)) (k : String) :
    dictGet? (dictOfList l) k = ((l.reverse.find? fun p => p.1 == k).map (·.2)) := by
  unfold dictOfList
  suffices h : ∀ (acc : List (String × α)),
      dictGet? (l.foldl (fun d kv => dictSet d kv.1 kv.2) acc) k =
        ((l.reverse.find? fun p => p.1 == k).map (·.2)).orElse fun _ => dictGet? acc k by
    simpa [dictGet?] using h []
  induction l with
  | nil => intro acc; simp
  | cons p l ih =>
    intro acc
    simp only [List.foldl_cons, List.reverse_cons, List.find?_append]
    rw [ih]
    cases hf : l.reverse.find? (fun q => q.1 == k) with
    | some q => simp
    | none =>
      simp only [Option.none_or, Option.map_none, Option.orElse_none]
      by_cases e : p.1 = k
      · subst e; simp [dictSet_get]
      · have : (p.1 == k) = false := by simpa using e
        simp [List.find?, this, dictSet_get_ne _ _ _ _ (Ne.symm e)]

theorem dictOfList_get_mem {α} (l : List (String × α)) (hd : distinct (l.map (·.1)) = true) {k : String} {v : α}
    (h : (k, v) ∈ l) : dictGet? (dictOfList l) k = some v := by
  rw [dictOfList_get]
  have : l.reverse.find? (fun p => p.1 == k) = some (k, v) := by
    induction l with
    | nil => cases h
    | cons p l ih =>
      simp only [List.map_cons, distinct_cons] at hd
      simp only [List.reverse_cons, List.find?_append]
      rcases List.mem_cons.mp h with e | e
      · subst e
        have : l.reverse.find? (fun p => p.1 == k) = none := by
          rw [List.find?_eq_none]
          intro q hq hqk
          apply hd.1
          have : q.1 = k := by simpa using hqk
          rw [← this]
          exact List.mem_map.mpr ⟨q, List.mem_reverse.mp hq, rfl⟩
        simp [this]
      · rw [ih hd.2 e]; rfl
  rw [this]; rfl

theorem mem_visitKeys {ρ} {sub : SubG ρ} {kvs : List (String × JVal)} {k : String} :
    k ∈ visitKeys sub kvs ↔ k ∈ sub.props.map (·.1.src) ∨ k ∈ kvs.map (·.1) := by
  unfold visitKeys JVal.keys
  simp only [List.mem_append, mem_removeDups, List.mem_filter, Bool.not_eq_true', List.contains_eq_mem,
    decide_eq_false_iff_not]
  constructor
  · rintro (h | ⟨h, _⟩)
    · exact Or.inl h
    · exact Or.inr h
  · rintro (h | h)
    · exact Or.inl h
    · by_cases hk : k ∈ sub.props.map (·.1.src)
      · exact Or.inl hk
      · exact Or.inr ⟨h, hk⟩

theorem argOf_mem {kvs : List (String × JVal)} (hd : distinct (kvs.map (·.1)) = true) {k : String} {x : JVal}
    (h : (k, x) ∈ kvs) : argOf kvs k = .val x := by
  rw [argOf, lookup_mem_distinct hd h]

theorem argOf_not_mem {kvs : List (String × JVal)} {k : String} (h : k ∉ kvs.map (·.1)) : argOf kvs k = .notPassed := by
  rw [argOf, lookup_none h]

theorem visitKeys_distinct {ρ} (sub : SubG ρ) (kvs : List (String × JVal)) (h : distinct (kvs.map (·.1)) = true) :
    distinct (visitKeys sub kvs) = true := by
  unfold visitKeys JVal.keys
  apply distinct_append (distinct_removeDups _) (distinct_filter _ h)
  intro x hx hx2
  have := (List.mem_filter.mp hx2).2
  simp only [Bool.not_eq_true', List.contains_eq_mem, decide_eq_false_iff_not] at this
  exact this hx

theorem toDouble_small {i : Int} (h : i.natAbs < 9007199254740992) : toDouble i = some (.flt i 1) := by
  have : pow2 53 = 9007199254740992 := by decide
  rw [toDouble, if_pos (this ▸ h)]

end Statham
