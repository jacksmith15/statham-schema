/-
  The class graph of element trees is bounded (duplicate-free edge lists inside the list of class names): the hypothesis
  under which the orderer model's search has fuel enough (`descendantsOf_direct`, Lemmas/ReachAdequate).
-/
import StathamModel.Lemmas.ReachAdequate
import StathamModel.Lemmas.ListAux
import StathamModel.Lemmas.Descendants
namespace Statham

/-- a descendant of something the module is generated from is itself among the things it is generated from -/
theorem mem_pool_of_desc (els : List Elem) (c d : Elem) (hc : c ∈ els ++ (els.map descendants).flatten)
    (hd : d ∈ descendants c) : d ∈ els ++ (els.map descendants).flatten := by
  rcases List.mem_append.mp hc with hc | hc
  · exact List.mem_append_right _ (List.mem_flatten.mpr ⟨descendants c, List.mem_map.mpr ⟨c, hc, rfl⟩, hd⟩)
  · obtain ⟨l, hl, hcl⟩ := List.mem_flatten.mp hc
    obtain ⟨r, hr, rfl⟩ := List.mem_map.mp hl
    exact List.mem_append_right _ (List.mem_flatten.mpr ⟨descendants r, List.mem_map.mpr ⟨r, hr, rfl⟩, desc_trans r c hcl d hd⟩)

theorem objectClasses_desc (els : List Elem) (c d : Elem) (hc : c ∈ objectClasses els) (hd : d ∈ descendants c)
    (ho : isObjectClass d.cls = true) : d ∈ objectClasses els := by
  unfold objectClasses at hc ⊢
  exact List.mem_filter.mpr ⟨mem_pool_of_desc els c d (List.mem_filter.mp hc).1 hd, ho⟩

theorem treeGraph_bounded (els : List Elem) : Bounded (treeGraph els) (treeGraph els).order := by
  constructor
  · intro n
    simp only [treeGraph]
    split
    · exact removeDups_nodup _
    · exact List.nodup_nil
  · intro n x hx
    simp only [treeGraph] at hx ⊢
    split at hx
    · rename_i c hfind
      have hc : c ∈ objectClasses els := List.mem_of_find?_eq_some hfind
      rw [mem_removeDups] at hx
      unfold directClasses at hx
      obtain ⟨d, hd, rfl⟩ := List.mem_map.mp hx
      obtain ⟨hd1, hd2⟩ := List.mem_filter.mp hd
      exact List.mem_map.mpr ⟨d, objectClasses_desc els c d hc hd1 hd2, rfl⟩
    · cases hx

end Statham
