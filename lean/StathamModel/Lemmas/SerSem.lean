/-
  `ser_ok` with the node equation read semantically: all the C03 meaning theorem needs of a node is that the element the
  parser would build from the node's own keywords and children *accepts the same values* as the node, not that it is the
  node.  `NFn` — the node equation up to the attribute names of properties (`forget`) — is a syntactic sufficient
  condition (`NFS_of_NFn`, by `acc_forget`), so the theorem covers trees written in the DSL whose properties are renamed
  freely.
-/
import StathamModel.Lemmas.SerOk
import StathamModel.Lemmas.AccNames
import StathamModel.Lemmas.ElemBeq
namespace Statham

/-- the node equation on verdicts.  No `notNothing` clauses: for verdicts a `Nothing()` in an `additional…` position is
    related to `false` like any element (`AddlK.elem`); only the syntactic round trip must exclude it -/
def NFSnode (env : Env) (cx : PCtx) (e : Elem) : Prop :=
  (e.cls = .nothing → e = Elem.nothing) ∧
  (e.cls ≠ .nothing → (assembleK cx (nodeSKw e.cls e.kw e.props) (nodeKids e)).acc env = e.acc env)

mutual
def NFS (env : Env) (cx : PCtx) : Elem → Prop
  | .mk c kw items addI cont props pats addP pn deps els =>
    NFSnode env cx (.mk c kw items addI cont props pats addP pn deps els) ∧
    NFSL env cx items ∧ NFSO env cx addI ∧ NFSO env cx cont ∧ NFSK env cx props ∧ NFSK env cx pats ∧ NFSO env cx addP ∧
    NFSO env cx pn ∧ NFSK env cx deps ∧ NFSL env cx els
def NFSO (env : Env) (cx : PCtx) : Option Elem → Prop
  | none => True
  | some e => NFS env cx e
def NFSL (env : Env) (cx : PCtx) : List Elem → Prop
  | [] => True
  | e :: es => NFS env cx e ∧ NFSL env cx es
def NFSK (env : Env) (cx : PCtx) : List (Key × Elem) → Prop
  | [] => True
  | (_, e) :: r => NFS env cx e ∧ NFSK env cx r
end

/-- the node equation up to attribute names -/
def NFnNode (cx : PCtx) (e : Elem) : Prop :=
  (e.cls = .nothing → e = Elem.nothing) ∧
  (e.cls ≠ .nothing → forget (assembleK cx (nodeSKw e.cls e.kw e.props) (nodeKids e)) = forget e)

mutual
def NFn (cx : PCtx) : Elem → Prop
  | .mk c kw items addI cont props pats addP pn deps els =>
    NFnNode cx (.mk c kw items addI cont props pats addP pn deps els) ∧
    NFnL cx items ∧ NFnO cx addI ∧ NFnO cx cont ∧ NFnK cx props ∧ NFnK cx pats ∧ NFnO cx addP ∧ NFnO cx pn ∧
    NFnK cx deps ∧ NFnL cx els
def NFnO (cx : PCtx) : Option Elem → Prop
  | none => True
  | some e => NFn cx e
def NFnL (cx : PCtx) : List Elem → Prop
  | [] => True
  | e :: es => NFn cx e ∧ NFnL cx es
def NFnK (cx : PCtx) : List (Key × Elem) → Prop
  | [] => True
  | (_, e) :: r => NFn cx e ∧ NFnK cx r
end

theorem NFSnode_of_NFnNode {env : Env} {cx : PCtx} {e : Elem} (h : NFnNode cx e) : NFSnode env cx e := by
  refine ⟨h.1, fun hc => ?_⟩
  rw [← acc_forget env (assembleK cx _ _), h.2 hc, acc_forget]

mutual
theorem NFS_of_NFn (env : Env) (cx : PCtx) : ∀ (e : Elem), NFn cx e → NFS env cx e
  | .mk c kw items addI cont props pats addP pn deps els, h => by
    rw [NFn] at h
    rw [NFS]
    exact ⟨NFSnode_of_NFnNode h.1, NFSL_of_NFnL env cx items h.2.1, NFSO_of_NFnO env cx addI h.2.2.1,
      NFSO_of_NFnO env cx cont h.2.2.2.1, NFSK_of_NFnK env cx props h.2.2.2.2.1, NFSK_of_NFnK env cx pats h.2.2.2.2.2.1,
      NFSO_of_NFnO env cx addP h.2.2.2.2.2.2.1, NFSO_of_NFnO env cx pn h.2.2.2.2.2.2.2.1,
      NFSK_of_NFnK env cx deps h.2.2.2.2.2.2.2.2.1, NFSL_of_NFnL env cx els h.2.2.2.2.2.2.2.2.2⟩
theorem NFSO_of_NFnO (env : Env) (cx : PCtx) : ∀ (o : Option Elem), NFnO cx o → NFSO env cx o
  | none, _ => by rw [NFSO]; trivial
  | some e, h => by rw [NFnO] at h; rw [NFSO]; exact NFS_of_NFn env cx e h
theorem NFSL_of_NFnL (env : Env) (cx : PCtx) : ∀ (l : List Elem), NFnL cx l → NFSL env cx l
  | [], _ => by rw [NFSL]; trivial
  | e :: es, h => by rw [NFnL] at h; rw [NFSL]; exact ⟨NFS_of_NFn env cx e h.1, NFSL_of_NFnL env cx es h.2⟩
theorem NFSK_of_NFnK (env : Env) (cx : PCtx) : ∀ (l : List (Key × Elem)), NFnK cx l → NFSK env cx l
  | [], _ => by rw [NFSK]; trivial
  | (k, e) :: r, h => by rw [NFnK] at h; rw [NFSK]; exact ⟨NFS_of_NFn env cx e h.1, NFSK_of_NFnK env cx r h.2⟩
end

theorem NFS_node {env : Env} {cx : PCtx} {e : Elem} (h : NFS env cx e) : NFSnode env cx e := by
  cases e with
  | mk c kw items addI cont props pats addP pn deps els => rw [NFS] at h; exact h.1

/-- side condition `haddp` of `RC_assembleK_of_flags`: if the parser reads the written `additionalProperties` as absent,
    the node had none -/
theorem addlKid_absent_of_parsed (cx : PCtx) (o : Option Elem) (b : Bool)
    (h : parseAddl cx (addlSchema (tsOpt o) b) = (none, true)) : addlKid o b = (none, true) := by
  cases o with
  | none =>
    cases b
    · simp [addlSchema, tsOpt, parseAddl] at h
    · rfl
  | some a =>
    rw [tsOpt, addlSchema] at h
    by_cases hc : a.cls = .nothing
    · cases a with
      | mk c kw items addI cont props pats addP pn deps els =>
        simp only [Elem.cls] at hc
        subst hc
        rw [toSchema] at h
        simp [parseAddl] at h
    · rw [parseAddl_mk cx (toSchema_isMk hc)] at h
      simp at h

/-- the validity functions of the sub-schemas of a serialized node -/
def tsSub (env : Env) : Elem → D6.SSub
  | .mk c kw items addI cont props pats addP pn deps els =>
    ssubOf env (tsList items) (addlSchema (tsOpt addI) kw.addItemsB) (tsOpt cont) (tsProps props) (tsPats pats)
      (addlSchema (tsOpt addP) kw.addPropsB) (tsOpt pn) (tsDeps deps) (membersFor c .anyOf (tsList els))
      (membersFor c .oneOf (tsList els)) (membersFor c .allOf (tsList els)) (notFor c (tsList els))

/-- the node step of `ser_ok_sem`: from the relations of the node's own children to the node's relation -/
theorem ser_ok_node {env : Env} {cx : PCtx} {c : Cls} {kw : Kw} {items : List Elem} {addI cont : Option Elem}
    {props pats : List (Key × Elem)} {addP pn : Option Elem} {deps : List (Key × Elem)} {els : List Elem}
    (hn : NFSnode env cx (.mk c kw items addI cont props pats addP pn deps els)) (hc : c ≠ .nothing)
    (hg : (flagsOf cx (toSchema (.mk c kw items addI cont props pats addP pn deps els))).all = true)
    (K : KidsRel env (nodeKids (.mk c kw items addI cont props pats addP pn deps els))
      (tsSub env (.mk c kw items addI cont props pats addP pn deps els))) :
    ERel env (.mk c kw items addI cont props pats addP pn deps els)
      (D6.valid env ℓ₀ (toSchema (.mk c kw items addI cont props pats addP pn deps els))) := by
  rw [toSchema_mk hc] at hg ⊢
  rw [D6.valid]
  -- after `K`, in order: `hf`, `hitems`, `hnames`, `haddp`, `hany`, `hone`, `hall`
  have := RC_assembleK_of_flags K (good_mk hg).1 (vList_length env ℓ₀ (tsList items)) (tsProps_names props).symm
    (addlKid_absent_of_parsed cx addP kw.addPropsB) (membersFor_isEmpty c .anyOf els).symm (membersFor_isEmpty c .oneOf els).symm
    (membersFor_isEmpty c .allOf els).symm
  unfold ERel
  rw [← hn.2 hc]
  exact this

theorem members_rel {env : Env} {cx : PCtx} {c m : Cls} {els : List Elem}
    (hg : (flagsList cx (membersFor c m (tsList els))).all = true)
    (h : (flagsList cx (tsList els)).all = true → All2 (ERel env) els (D6.vList env ℓ₀ (tsList els))) :
    All2 (ERel env) (membersFor c m els) (D6.vList env ℓ₀ (membersFor c m (tsList els))) := by
  unfold membersFor at hg ⊢
  split
  · rename_i hm; rw [if_pos hm] at hg; exact h hg
  · rw [D6.vList]; exact All2.nil

theorem notFor_rel {env : Env} {cx : PCtx} {c : Cls} {els : List Elem}
    (hg : (flagsOpt cx (notFor c (tsList els))).all = true)
    (h : (flagsOpt cx (tsList els).head?).all = true → OptRel (ERel env) els.head? (D6.vOpt env ℓ₀ (tsList els).head?)) :
    OptRel (ERel env) (notFor c els) (D6.vOpt env ℓ₀ (notFor c (tsList els))) := by
  unfold notFor at hg ⊢
  split
  · rename_i hm; rw [if_pos hm] at hg; exact h hg
  · rw [D6.vOpt]; exact OptRel.none

mutual
/-- **The serialized document means what the tree means**, with the node equation required on verdicts only -/
theorem ser_ok_sem (env : Env) (cx : PCtx) : ∀ (e : Elem), NFS env cx e → (flagsOf cx (toSchema e)).all = true →
    ERel env e (D6.valid env ℓ₀ (toSchema e))
  | .mk c kw items addI cont props pats addP pn deps els, h, hg => by
    rw [NFS] at h
    obtain ⟨hn, hi, hai, hco, hp, hpp, hap, hpn, hd, he⟩ := h
    by_cases hc : c = .nothing
    · rw [hn.1 hc, toSchema_nothing, D6.valid]
      exact RC_nothing env
    · have hg' := hg
      rw [toSchema_mk hc] at hg'
      obtain ⟨_, h1, h2, h3, h4, h5, h6, h7, h8, h9, h10, h11, h12⟩ := good_mk hg'
      exact ser_ok_node hn hc hg
        { items := semList_ok env cx items hi h1
          addItems := semAddl_ok env cx addI kw.addItemsB hai h2
          contains := semOpt_ok env cx cont hco h3
          props := semProps_ok env cx props hp h4
          patProps := semPats_ok env cx pats hpp h5
          addProps := semAddl_ok env cx addP kw.addPropsB hap h6
          propNames := semOpt_ok env cx pn hpn h7
          deps := semDeps_ok env cx deps hd h8
          anyOf := members_rel h9 (semList_ok env cx els he)
          oneOf := members_rel h10 (semList_ok env cx els he)
          allOf := members_rel h11 (semList_ok env cx els he)
          not := notFor_rel h12 (semHead_ok env cx els he) }
theorem semAddl_ok (env : Env) (cx : PCtx) : ∀ (o : Option Elem) (b : Bool), NFSO env cx o →
    (flagsOpt cx (addlSchema (tsOpt o) b)).all = true →
    AddlK env (addlKid o b) (D6.vOpt env ℓ₀ (addlSchema (tsOpt o) b))
  | none, false, _, _ => by
    rw [tsOpt, addlSchema, if_neg Bool.false_ne_true, D6.vOpt, D6.valid]
    exact AddlK.lit false
  | none, true, _, _ => by
    rw [tsOpt, addlSchema, if_pos rfl, D6.vOpt]
    exact AddlK.absent
  | some a, b, h, hg => by
    rw [NFSO] at h
    rw [tsOpt, addlSchema] at hg ⊢
    rw [flagsOpt] at hg
    rw [D6.vOpt]
    exact AddlK.elem (ser_ok_sem env cx a h hg)
theorem semOpt_ok (env : Env) (cx : PCtx) : ∀ (o : Option Elem), NFSO env cx o → (flagsOpt cx (tsOpt o)).all = true →
    OptRel (ERel env) o (D6.vOpt env ℓ₀ (tsOpt o))
  | none, _, _ => by rw [tsOpt, D6.vOpt]; exact OptRel.none
  | some e, h, hg => by
    rw [NFSO] at h
    rw [tsOpt, flagsOpt] at hg
    rw [tsOpt, D6.vOpt]
    exact OptRel.some (ser_ok_sem env cx e h hg)
theorem semHead_ok (env : Env) (cx : PCtx) : ∀ (l : List Elem), NFSL env cx l → (flagsOpt cx (tsList l).head?).all = true →
    OptRel (ERel env) l.head? (D6.vOpt env ℓ₀ (tsList l).head?)
  | [], _, _ => by rw [tsList]; simp only [List.head?_nil]; rw [D6.vOpt]; exact OptRel.none
  | e :: es, h, hg => by
    rw [NFSL] at h
    rw [tsList] at hg ⊢
    simp only [List.head?_cons] at hg ⊢
    rw [flagsOpt] at hg
    rw [D6.vOpt]
    exact OptRel.some (ser_ok_sem env cx e h.1 hg)
theorem semList_ok (env : Env) (cx : PCtx) : ∀ (l : List Elem), NFSL env cx l → (flagsList cx (tsList l)).all = true →
    All2 (ERel env) l (D6.vList env ℓ₀ (tsList l))
  | [], _, _ => by rw [tsList, D6.vList]; exact All2.nil
  | e :: es, h, hg => by
    rw [NFSL] at h
    rw [tsList] at hg ⊢
    rw [flagsList, Flags.all_and, Bool.and_eq_true] at hg
    rw [D6.vList]
    exact All2.cons (ser_ok_sem env cx e h.1 hg.1) (semList_ok env cx es h.2 hg.2)
theorem semProps_ok (env : Env) (cx : PCtx) : ∀ (l : List (Key × Elem)), NFSK env cx l → (flagsNamed cx (tsProps l)).all = true →
    All2 (fun (a : String × Elem) (b : String × Bool × D6.VF) =>
        a.1 = b.1 ∧ ERel env a.2 b.2.2 ∧ b.2.1 = a.2.kw.default.isSome)
      (l.map fun p => (p.1.src, p.2)) (D6.vProps env ℓ₀ (tsProps l))
  | [], _, _ => by rw [tsProps, D6.vProps]; exact All2.nil
  | (k, e) :: r, h, hg => by
    rw [NFSK] at h
    rw [tsProps] at hg ⊢
    rw [flagsNamed, Flags.all_and, Bool.and_eq_true] at hg
    rw [D6.vProps]
    exact All2.cons ⟨rfl, ser_ok_sem env cx e h.1 hg.1, declaresDefault_ts e (NFS_node h.1).1⟩ (semProps_ok env cx r h.2 hg.2)
theorem semPats_ok (env : Env) (cx : PCtx) : ∀ (l : List (Key × Elem)), NFSK env cx l → (flagsNamed cx (tsPats l)).all = true →
    All2 (fun (a : String × Elem) (b : String × D6.VF) => a.1 = b.1 ∧ ERel env a.2 b.2)
      (l.map fun p => (p.1.name, p.2)) (D6.vNamed env ℓ₀ (tsPats l))
  | [], _, _ => by rw [tsPats, D6.vNamed]; exact All2.nil
  | (k, e) :: r, h, hg => by
    rw [NFSK] at h
    rw [tsPats] at hg ⊢
    rw [flagsNamed, Flags.all_and, Bool.and_eq_true] at hg
    rw [D6.vNamed]
    exact All2.cons ⟨rfl, ser_ok_sem env cx e h.1 hg.1⟩ (semPats_ok env cx r h.2 hg.2)
theorem semDeps_ok (env : Env) (cx : PCtx) : ∀ (l : List (Key × Elem)), NFSK env cx l → (flagsDeps cx (tsDeps l)).all = true →
    All2 (fun (a : Key × Elem) (b : Key × D6.VF) => a.1 = b.1 ∧ ERel env a.2 b.2) l (D6.vDeps env ℓ₀ (tsDeps l))
  | [], _, _ => by rw [tsDeps, D6.vDeps]; exact All2.nil
  | (k, e) :: r, h, hg => by
    rw [NFSK] at h
    rw [tsDeps] at hg ⊢
    rw [flagsDeps, Flags.all_and, Bool.and_eq_true] at hg
    rw [D6.vDeps]
    exact All2.cons ⟨rfl, ser_ok_sem env cx e h.1 hg.1⟩ (semDeps_ok env cx r h.2 hg.2)
end

/-- executable reading of `NFn`: what the driver evaluates (`C03_meaning_decidable`) -/
def nfnNodeBool (cx : PCtx) (e : Elem) : Bool :=
  if e.cls = .nothing then Elem.same e Elem.nothing
  else Elem.same (forget (assembleK cx (nodeSKw e.cls e.kw e.props) (nodeKids e))) (forget e)

theorem nfnNodeBool_sound (cx : PCtx) (e : Elem) (h : nfnNodeBool cx e = true) : NFnNode cx e := by
  unfold nfnNodeBool at h
  refine ⟨fun hc => ?_, fun hc => ?_⟩
  · rw [if_pos hc] at h; exact Elem.same_sound _ _ h
  · rw [if_neg hc] at h; exact Elem.same_sound _ _ h

mutual
def nfnBool (cx : PCtx) : Elem → Bool
  | .mk c kw items addI cont props pats addP pn deps els =>
    nfnNodeBool cx (.mk c kw items addI cont props pats addP pn deps els) &&
    nfnBoolL cx items && nfnBoolO cx addI && nfnBoolO cx cont && nfnBoolK cx props && nfnBoolK cx pats && nfnBoolO cx addP &&
    nfnBoolO cx pn && nfnBoolK cx deps && nfnBoolL cx els
def nfnBoolO (cx : PCtx) : Option Elem → Bool
  | none => true
  | some e => nfnBool cx e
def nfnBoolL (cx : PCtx) : List Elem → Bool
  | [] => true
  | e :: es => nfnBool cx e && nfnBoolL cx es
def nfnBoolK (cx : PCtx) : List (Key × Elem) → Bool
  | [] => true
  | (_, e) :: r => nfnBool cx e && nfnBoolK cx r
end

mutual
theorem nfnBool_sound (cx : PCtx) : ∀ (e : Elem), nfnBool cx e = true → NFn cx e
  | .mk c kw items addI cont props pats addP pn deps els, h => by
    rw [nfnBool] at h
    simp only [Bool.and_eq_true, and_assoc] at h
    obtain ⟨h0, h1, h2, h3, h4, h5, h6, h7, h8, h9⟩ := h
    rw [NFn]
    exact ⟨nfnNodeBool_sound cx _ h0, nfnBoolL_sound cx items h1, nfnBoolO_sound cx addI h2, nfnBoolO_sound cx cont h3,
      nfnBoolK_sound cx props h4, nfnBoolK_sound cx pats h5, nfnBoolO_sound cx addP h6, nfnBoolO_sound cx pn h7,
      nfnBoolK_sound cx deps h8, nfnBoolL_sound cx els h9⟩
theorem nfnBoolO_sound (cx : PCtx) : ∀ (o : Option Elem), nfnBoolO cx o = true → NFnO cx o
  | none, _ => by rw [NFnO]; trivial
  | some e, h => by rw [nfnBoolO] at h; rw [NFnO]; exact nfnBool_sound cx e h
theorem nfnBoolL_sound (cx : PCtx) : ∀ (l : List Elem), nfnBoolL cx l = true → NFnL cx l
  | [], _ => by rw [NFnL]; trivial
  | e :: es, h => by
    rw [nfnBoolL, Bool.and_eq_true] at h
    rw [NFnL]
    exact ⟨nfnBool_sound cx e h.1, nfnBoolL_sound cx es h.2⟩
theorem nfnBoolK_sound (cx : PCtx) : ∀ (l : List (Key × Elem)), nfnBoolK cx l = true → NFnK cx l
  | [], _ => by rw [NFnK]; trivial
  | (k, e) :: r, h => by
    rw [nfnBoolK, Bool.and_eq_true] at h
    rw [NFnK]
    exact ⟨nfnBool_sound cx e h.1, nfnBoolK_sound cx r h.2⟩
end

end Statham
