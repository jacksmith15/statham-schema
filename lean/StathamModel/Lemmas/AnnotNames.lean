/-
  Which names an annotation refers to: the typing words `Any`, `List`, `Union` and the names of the model
  classes among the element and its descendants.
-/
import StathamModel.Lemmas.Descendants
namespace Statham

def typingWord (n : String) : Prop := n = "Any" ∨ n = "List" ∨ n = "Union"

def NamesIn (S : String → Prop) (t : PyType) : Prop := ∀ n ∈ t.names, typingWord n ∨ S n

theorem namesList_mem {ts : List PyType} {n : String} (h : n ∈ PyType.namesList ts) : ∃ t ∈ ts, n ∈ t.names := by
  induction ts with
  | nil => simp [PyType.namesList] at h
  | cons a r ih =>
    rw [PyType.namesList] at h
    rcases List.mem_append.mp h with h | h
    · exact ⟨a, List.mem_cons_self .., h⟩
    · obtain ⟨t, ht, hn⟩ := ih h
      exact ⟨t, List.mem_cons_of_mem _ ht, hn⟩

theorem dedupe_sub {t : PyType} {ts : List PyType} (h : t ∈ dedupeTypes ts) : t ∈ ts := by
  induction ts with
  | nil => simp [dedupeTypes] at h
  | cons u us ih =>
    rw [dedupeTypes] at h
    rcases List.mem_cons.mp h with rfl | h
    · exact List.mem_cons_self ..
    · exact List.mem_cons_of_mem _ (ih (List.mem_filter.mp h).1)

theorem NamesIn.any {S} : NamesIn S .any := by
  intro n hn; simp only [PyType.names, List.mem_singleton] at hn; exact Or.inl (Or.inl hn)

theorem NamesIn.union {S} {ts : List PyType} (h : ∀ t ∈ ts, NamesIn S t) : NamesIn S (.union ts) := by
  intro n hn
  simp only [PyType.names, List.mem_cons] at hn
  rcases hn with rfl | hn
  · exact Or.inl (Or.inr (Or.inr rfl))
  · obtain ⟨t, ht, hnt⟩ := namesList_mem hn
    exact h t ht n hnt

theorem unionAnnot_names {S} {ts : List PyType} (h : ∀ t ∈ ts, NamesIn S t) : NamesIn S (unionAnnot ts) := by
  have hd : ∀ t ∈ dedupeTypes ts, NamesIn S t := fun t ht => h t (dedupe_sub ht)
  unfold unionAnnot
  split
  · next t hdd => exact hd t (by rw [hdd]; exact List.mem_cons_self ..)
  · split
    · exact NamesIn.any
    · exact NamesIn.union hd

theorem allOfAnnot_names {S} {ts : List PyType} (h : ∀ t ∈ ts, NamesIn S t) : NamesIn S (allOfAnnot ts) := by
  unfold allOfAnnot
  cases hf : ts.find? (fun t => !isAnyText t && !t.show.startsWith "Union") with
  | some t => exact h t (List.mem_of_find?_eq_some hf)
  | none =>
    simp only
    cases hg : ts.find? (fun t => !isAnyText t) with
    | some t => exact h t (List.mem_of_find?_eq_some hg)
    | none => exact NamesIn.any

theorem NamesIn.list {S} {t : PyType} (h : NamesIn S t) : NamesIn S (.list t) := by
  intro n hn
  simp only [PyType.names, List.mem_cons] at hn
  rcases hn with rfl | hn
  · exact Or.inl (Or.inr (Or.inl rfl))
  · exact h n hn

theorem listAnnot_names {S} {ts : List PyType} (h : ∀ t ∈ ts, NamesIn S t) : NamesIn S (listAnnot ts) := by
  unfold listAnnot
  match ts with
  | [] => intro n hn; simp only [PyType.names, List.mem_singleton] at hn; exact Or.inl (Or.inr (Or.inl hn))
  | [t] => exact NamesIn.list (h t (List.mem_cons_self ..))
  | t :: u :: rest => exact NamesIn.list (NamesIn.union h)

theorem NamesIn.any_or {S} {c : Bool} {l : List PyType} (hl : ∀ t ∈ l, NamesIn S t) :
    ∀ t ∈ (if c then [PyType.any] else l), NamesIn S t := by
  intro t ht
  split at ht
  · rw [List.mem_singleton.mp ht]; exact NamesIn.any
  · exact hl t ht

theorem itemAnnots_names {S} (kind : ItemsKind) (b : Bool) {items : List PyType} {add : Option PyType}
    (hi : ∀ t ∈ items, NamesIn S t) (ha : ∀ t, add = some t → NamesIn S t) :
    ∀ t ∈ itemAnnots kind b items add, NamesIn S t := by
  have tuple_case : ∀ t ∈ (match add with
      | none => if b then [PyType.any] else (if items.any isAnyText then [PyType.any] else dedupeTypes items)
      | some a => if (items ++ [a]).any isAnyText then [PyType.any] else dedupeTypes (items ++ [a])), NamesIn S t := by
    cases add with
    | none => exact NamesIn.any_or (NamesIn.any_or fun t ht => hi t (dedupe_sub ht))
    | some a =>
      refine NamesIn.any_or fun t ht => ?_
      rcases List.mem_append.mp (dedupe_sub ht) with h | h
      · exact hi t h
      · exact ha t (by rw [List.mem_singleton.mp h])
  intro t ht
  unfold itemAnnots at ht
  cases kind with
  | single => exact hi t (List.mem_of_mem_take ht)
  | none => exact tuple_case t ht
  | tuple => exact tuple_case t ht

def ClassIn (pool : List Elem) (n : String) : Prop := ∃ d ∈ pool, isObjectClass d.cls = true ∧ objName d.cls = n

theorem annotCore_names {pool : List Elem} (c : Cls) (kw : Kw) {items : List PyType} {add : Option PyType} {els : List PyType}
    (hself : ∀ nm, c = .object nm → ClassIn pool nm)
    (hi : ∀ t ∈ items, NamesIn (ClassIn pool) t) (ha : ∀ t, add = some t → NamesIn (ClassIn pool) t)
    (he : ∀ t ∈ els, NamesIn (ClassIn pool) t) : NamesIn (ClassIn pool) (annotCore c kw items add els) := by
  cases c with
  | element | not => exact NamesIn.any
  | nothing | null | boolean | integer | number | string => intro n hn; simp [annotCore, PyType.names] at hn
  | array => exact listAnnot_names (itemAnnots_names _ _ hi ha)
  | object nm =>
    intro n hn
    simp only [annotCore, PyType.names, List.mem_singleton] at hn
    exact Or.inr (hn ▸ hself nm rfl)
  | anyOf | oneOf => exact unionAnnot_names he
  | allOf => exact allOfAnnot_names he

theorem ClassIn.mono {pool pool' : List Elem} {n : String} (h : ClassIn pool n) (hs : ∀ d ∈ pool, d ∈ pool') : ClassIn pool' n := by
  obtain ⟨d, hd, h1, h2⟩ := h
  exact ⟨d, hs d hd, h1, h2⟩

theorem NamesIn.mono {S S' : String → Prop} {t : PyType} (h : NamesIn S t) (hs : ∀ n, S n → S' n) : NamesIn S' t := by
  intro n hn
  rcases h n hn with h | h
  · exact Or.inl h
  · exact Or.inr (hs n h)

mutual
theorem annot_names : ∀ (e : Elem), NamesIn (ClassIn (e :: descendants e)) (annot e)
  | .mk c kw items addI cont props pats addP pn deps els => by
    rw [annot]
    have into : ∀ (pool : List Elem), (∀ d ∈ pool, d ∈ descendants (.mk c kw items addI cont props pats addP pn deps els)) →
        ∀ t, NamesIn (ClassIn pool) t →
          NamesIn (ClassIn ((Elem.mk c kw items addI cont props pats addP pn deps els) ::
            descendants (.mk c kw items addI cont props pats addP pn deps els))) t :=
      fun pool hs t ht => ht.mono fun n hn => hn.mono fun d hd => List.mem_cons_of_mem _ (hs d hd)
    apply annotCore_names
    · intro nm hc
      exact ⟨_, List.mem_cons_self .., by simp [Elem.cls, hc, isObjectClass], by simp [Elem.cls, hc, objName]⟩
    · intro t ht
      exact into (descL items) (fun d hd => mem_descendants.mpr (.inl hd)) t (annotList_names items t ht)
    · intro t ht
      cases addI with
      | none => simp [annotOpt] at ht
      | some a =>
        simp only [annotOpt, Option.some.injEq] at ht
        rw [← ht]
        exact into (descO (some a)) (fun d hd => mem_descendants.mpr (.inr (.inl hd))) _
          (by rw [descO]; exact annot_names a)
    · intro t ht
      exact into (descL els) (fun d hd => mem_descendants.mpr (.inr (.inr (.inr (.inr (.inr (.inr (.inr (.inr hd))))))))) t
        (annotList_names els t ht)
theorem annotList_names : ∀ (es : List Elem), ∀ t ∈ annotList es, NamesIn (ClassIn (descL es)) t
  | [], t, ht => by simp [annotList] at ht
  | e :: es, t, ht => by
    rw [annotList] at ht
    rw [descL]
    rcases List.mem_cons.mp ht with rfl | ht
    · exact (annot_names e).mono fun n hn => hn.mono fun d hd => List.mem_append_left _ hd
    · exact (annotList_names es t ht).mono fun n hn => hn.mono fun d hd => List.mem_append_right _ hd
end

theorem propAnnot_names (k : Key) (e : Elem) :
    ∀ n ∈ (propAnnot k e).names, n = "Maybe" ∨ typingWord n ∨ ClassIn (e :: descendants e) n := by
  intro n hn
  unfold propAnnot at hn
  split at hn
  · exact Or.inr (annot_names e n hn)
  · simp only [PyType.names, List.mem_cons] at hn
    exact hn.imp_right (annot_names e n)

end Statham
