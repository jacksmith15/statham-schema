/-
  Verdicts do not depend on the Python attribute names of properties: `Element.__call__` looks a member up by
  the property's JSON name (`source`), and the attribute name only labels the result.  `forget e` replaces every
  property key of the tree by its canonical form (no attribute name, explicit source); `acc_forget` says the
  verdict-only semantics cannot tell the difference.  This is what extends the C03 meaning theorem from parser
  images to trees written in the DSL with freely chosen attribute names.  Second half: `anonymize` also blanks the
  names of object classes (`acc_anonymize`), which is the C17 congruence for trees equal up to names.
-/
import StathamModel.Lemmas.CallVerdict
namespace Statham

/-- a property key with the attribute name blanked to `""`; JSON name and `required` flag are kept.  `src` survives even
    for an empty source, because the fallback name is then empty too (`normKey_src`) -/
def normKey (k : Key) : Key := { name := "", required := k.required, source := some k.src, names := k.names }

theorem normKey_src (k : Key) : (normKey k).src = k.src := by
  show (if k.src = "" then "" else k.src) = k.src
  split
  · next h => exact h.symm
  · rfl

theorem normKey_required (k : Key) : (normKey k).required = k.required := rfl

theorem normKey_idem (k : Key) : normKey (normKey k) = normKey k := by
  unfold normKey
  simp only [Key.mk.injEq, true_and]
  refine ⟨?_, trivial⟩
  have := normKey_src k
  unfold normKey at this
  rw [this]

/-- what `forgetP` / `anonP` do to the applied property list (`accProps_forget`); the `_erase` lemmas below say that
    `accCore` cannot see it -/
def propsErase {ρ} (l : List (Key × Option JVal × CallG ρ)) : List (Key × Option JVal × CallG ρ) :=
  l.map fun p => (normKey p.1, p.2.1, p.2.2)

theorem findDeclared_erase {ρ} (l : List (Key × Option JVal × CallG ρ)) (k : String) :
    findDeclared (propsErase l) k = (findDeclared l k).map fun p => (normKey p.1, p.2) := by
  simp only [findDeclared_eq, propsErase, ← List.map_reverse, List.find?_map, Option.map_map, Function.comp_def,
    normKey_src]

theorem srcs_erase {ρ} (l : List (Key × Option JVal × CallG ρ)) :
    (propsErase l).map (fun p => p.1.src) = l.map (fun p => p.1.src) := by
  unfold propsErase
  rw [List.map_map]
  apply List.map_congr_left
  intro p _
  exact normKey_src p.1

def SubG.erase {ρ} (s : SubG ρ) : SubG ρ := { s with props := propsErase s.props }

theorem visitKeys_erase {ρ} (s : SubG ρ) (kvs : List (String × JVal)) : visitKeys s.erase kvs = visitKeys s kvs := by
  unfold visitKeys SubG.erase
  simp only [srcs_erase]

theorem propCandidates_erase {ρ} (env : Env) (s : SubG ρ) (k : String) :
    propCandidates env s.erase k = propCandidates env s k := by
  unfold propCandidates
  rw [show s.erase.props = propsErase s.props from rfl, findDeclared_erase, Option.map_map]
  rfl

theorem resolveCall_erase {ρ} (alg : Alg ρ) (env : Env) (kw : Kw) (s : SubG ρ) (k : String) (a : Arg) :
    (resolveCall alg env kw s.erase k a).2 = (resolveCall alg env kw s k a).2 := by
  rw [resolveCall_snd, resolveCall_snd, propCandidates_erase]
  rfl

theorem propsOuts_erase {ρ} (alg : Alg ρ) (env : Env) (kw : Kw) (s : SubG ρ) (kvs : List (String × JVal)) :
    (propsOuts alg env kw s.erase kvs).map (·.2) = (propsOuts alg env kw s kvs).map (·.2) := by
  unfold propsOuts
  rw [visitKeys_erase, List.map_map, List.map_map]
  apply List.map_congr_left
  intro k _
  exact resolveCall_erase alg env kw s k (argOf kvs k)

theorem requiredNames_erase {ρ} (kw : Kw) (l : List (Key × Option JVal × CallG ρ)) :
    requiredNames kw ((propsErase l).map fun p => (p.1, p.2.1)) = requiredNames kw (l.map fun p => (p.1, p.2.1)) := by
  unfold requiredNames propsErase
  rw [List.map_map, List.filter_map, List.filter_map, List.map_map, List.map_map]
  exact congrArg _ (List.map_congr_left fun p _ => normKey_src p.1)

theorem itemsCallFrom_erase {ρ} (alg : Alg ρ) (kw : Kw) (s : SubG ρ) (idx : Nat) (xs : List JVal) :
    itemsCallFrom alg kw s.erase idx xs = itemsCallFrom alg kw s idx xs := by
  induction xs generalizing idx with
  | nil => rfl
  | cons x xs ih =>
    simp only [itemsCallFrom, ih]
    rfl

theorem any_src_erase {ρ} (l : List (Key × Option JVal × CallG ρ)) (x : String) :
    ((propsErase l).any fun p => p.1.src == x) = (l.any fun p => p.1.src == x) := by
  unfold propsErase
  rw [List.any_map]
  congr 1
  funext p
  simp only [Function.comp_apply, normKey_src]

theorem additionalPropsCheck_erase (env : Env) (c : Cls) (kw : Kw) (s : VSub) (kvs : List (String × JVal)) :
    additionalPropsCheck env c kw s.erase kvs = additionalPropsCheck env c kw s kvs := by
  unfold additionalPropsCheck
  -- the check reads the declared properties through their JSON names only
  simp only [SubG.erase, any_src_erase]

theorem validators_erase (env : Env) (c : Cls) (kw : Kw) (s : VSub) (v : JVal) :
    validators id env c kw s.erase v = validators id env c kw s v := by
  unfold validators
  cases v with
  | obj kvs =>
    -- of the object checks only `required` looks at the declared properties
    have hr : requiredNames kw (s.erase.props.map fun p => (p.1, p.2.1)) = requiredNames kw (s.props.map fun p => (p.1, p.2.1)) :=
      requiredNames_erase kw s.props
    simp only [objChecks, hr, additionalPropsCheck_erase]
    rfl
  | _ => rfl

theorem constructV_erase (env : Env) (c : Cls) (kw : Kw) (s : VSub) (v : JVal) :
    constructV env c kw s.erase v = constructV env c kw s v := by
  have hp : ∀ kvs, V.all (fun o => o.2) (propsOuts vAlg env kw s.erase kvs) = V.all (fun o => o.2) (propsOuts vAlg env kw s kvs) :=
    fun kvs => (V.all_map id Prod.snd _).symm.trans
      ((congrArg (V.all id) (propsOuts_erase vAlg env kw s kvs)).trans (V.all_map id Prod.snd _))
  have he : s.erase.elements = s.elements := rfl
  unfold constructV
  simp only [he, hp, itemsCallFrom_erase]

theorem createV_erase (env : Env) (c : Cls) (kw : Kw) (s : VSub) (v : JVal) :
    createV env c kw s.erase v = createV env c kw s v := by
  unfold createV
  rw [validators_erase, constructV_erase]

theorem accCore_erase (env : Env) (c : Cls) (kw : Kw) (s : VSub) (a : Arg) :
    accCore env c kw s.erase a = accCore env c kw s a := by
  unfold accCore
  simp only [createV_erase]

mutual
def forget : Elem → Elem
  | .mk c kw items addI cont props pats addP pn deps els =>
    .mk c kw (forgetL items) (forgetO addI) (forgetO cont) (forgetP props) (forgetK pats) (forgetO addP) (forgetO pn)
      (forgetK deps) (forgetL els)
def forgetO : Option Elem → Option Elem
  | none => none
  | some e => some (forget e)
def forgetL : List Elem → List Elem
  | [] => []
  | e :: es => forget e :: forgetL es
def forgetP : List (Key × Elem) → List (Key × Elem)
  | [] => []
  | (k, e) :: r => (normKey k, forget e) :: forgetP r
/-- `patternProperties` / `dependencies`: the key is the pattern / the trigger and stays -/
def forgetK : List (Key × Elem) → List (Key × Elem)
  | [] => []
  | (k, e) :: r => (k, forget e) :: forgetK r
end

theorem forget_cls (e : Elem) : (forget e).cls = e.cls := by
  cases e; rw [forget]; rfl

theorem forget_kw (e : Elem) : (forget e).kw = e.kw := by
  cases e; rw [forget]; rfl

mutual
theorem acc_forget (env : Env) : ∀ (e : Elem), (forget e).acc env = e.acc env
  | .mk c kw items addI cont props pats addP pn deps els => by
    funext a
    rw [forget, Elem.acc, Elem.acc]
    rw [accList_forget env items, accAddl_forget env addI, accOpt_forget env cont, accProps_forget env props,
      accKeyed_forget env pats, accOpt_forget env addP, accOpt_forget env pn, accKeyed_forget env deps, accList_forget env els]
    exact accCore_erase env c kw
      { items := accList env items, addItems := accAddl env addI, contains := accOpt env cont, props := accProps env props,
        patProps := accKeyed env pats, addProps := accOpt env addP, propNames := accOpt env pn, deps := accKeyed env deps,
        elements := accList env els } a
theorem accOpt_forget (env : Env) : ∀ (o : Option Elem), accOpt env (forgetO o) = accOpt env o
  | none => by rw [forgetO]
  | some e => by rw [forgetO, accOpt, accOpt, acc_forget env e]
theorem accAddl_forget (env : Env) : ∀ (o : Option Elem), accAddl env (forgetO o) = accAddl env o
  | none => by rw [forgetO]
  | some e => by rw [forgetO, accAddl, accAddl, acc_forget env e, forget_cls]
theorem accList_forget (env : Env) : ∀ (l : List Elem), accList env (forgetL l) = accList env l
  | [] => by rw [forgetL]
  | e :: es => by rw [forgetL, accList, accList, acc_forget env e, accList_forget env es]
theorem accKeyed_forget (env : Env) : ∀ (l : List (Key × Elem)), accKeyed env (forgetK l) = accKeyed env l
  | [] => by rw [forgetK]
  | (k, e) :: r => by rw [forgetK, accKeyed, accKeyed, acc_forget env e, accKeyed_forget env r]
theorem accProps_forget (env : Env) : ∀ (l : List (Key × Elem)), accProps env (forgetP l) = propsErase (accProps env l)
  | [] => by rw [forgetP, accProps]; rfl
  | (k, e) :: r => by
    rw [forgetP, accProps, accProps, acc_forget env e, accProps_forget env r, forget_kw]
    rfl
end

def anonCls : Cls → Cls
  | .object _ => .object ""
  | c => c

theorem accCore_anonCls (env : Env) (c : Cls) (kw : Kw) (s : VSub) (a : Arg) :
    accCore env (anonCls c) kw s a = accCore env c kw s a := by
  -- every match on the class reads `.object _`: the name is never looked at
  cases c <;> rfl

theorem anonCls_eq_nothing {c : Cls} : anonCls c = .nothing ↔ c = .nothing := by
  cases c <;> simp [anonCls]

mutual
def anonymize : Elem → Elem
  | .mk c kw items addI cont props pats addP pn deps els =>
    .mk (anonCls c) kw (anonL items) (anonO addI) (anonO cont) (anonP props) (anonK pats) (anonO addP) (anonO pn)
      (anonK deps) (anonL els)
def anonO : Option Elem → Option Elem
  | none => none
  | some e => some (anonymize e)
def anonL : List Elem → List Elem
  | [] => []
  | e :: es => anonymize e :: anonL es
def anonP : List (Key × Elem) → List (Key × Elem)
  | [] => []
  | (k, e) :: r => (normKey k, anonymize e) :: anonP r
def anonK : List (Key × Elem) → List (Key × Elem)
  | [] => []
  | (k, e) :: r => (k, anonymize e) :: anonK r
end

theorem anonymize_kw (e : Elem) : (anonymize e).kw = e.kw := by
  cases e; rw [anonymize]; rfl

theorem anonymize_ne_nothing (e : Elem) : ((anonymize e).cls != .nothing) = (e.cls != .nothing) := by
  cases e with
  | mk c kw items addI cont props pats addP pn deps els =>
    rw [anonymize]
    cases c <;> rfl

mutual
theorem acc_anonymize (env : Env) : ∀ (e : Elem), (anonymize e).acc env = e.acc env
  | .mk c kw items addI cont props pats addP pn deps els => by
    funext a
    rw [anonymize, Elem.acc, Elem.acc]
    rw [accList_anon env items, accAddl_anon env addI, accOpt_anon env cont, accProps_anon env props,
      accKeyed_anon env pats, accOpt_anon env addP, accOpt_anon env pn, accKeyed_anon env deps, accList_anon env els]
    rw [accCore_anonCls]
    exact accCore_erase env c kw
      { items := accList env items, addItems := accAddl env addI, contains := accOpt env cont, props := accProps env props,
        patProps := accKeyed env pats, addProps := accOpt env addP, propNames := accOpt env pn, deps := accKeyed env deps,
        elements := accList env els } a
theorem accOpt_anon (env : Env) : ∀ (o : Option Elem), accOpt env (anonO o) = accOpt env o
  | none => by rw [anonO]
  | some e => by rw [anonO, accOpt, accOpt, acc_anonymize env e]
theorem accAddl_anon (env : Env) : ∀ (o : Option Elem), accAddl env (anonO o) = accAddl env o
  | none => by rw [anonO]
  | some e => by rw [anonO, accAddl, accAddl, acc_anonymize env e, anonymize_ne_nothing]
theorem accList_anon (env : Env) : ∀ (l : List Elem), accList env (anonL l) = accList env l
  | [] => by rw [anonL]
  | e :: es => by rw [anonL, accList, accList, acc_anonymize env e, accList_anon env es]
theorem accKeyed_anon (env : Env) : ∀ (l : List (Key × Elem)), accKeyed env (anonK l) = accKeyed env l
  | [] => by rw [anonK]
  | (k, e) :: r => by rw [anonK, accKeyed, accKeyed, acc_anonymize env e, accKeyed_anon env r]
theorem accProps_anon (env : Env) : ∀ (l : List (Key × Elem)), accProps env (anonP l) = propsErase (accProps env l)
  | [] => by rw [anonP, accProps]; rfl
  | (k, e) :: r => by
    rw [anonP, accProps, accProps, acc_anonymize env e, accProps_anon env r, anonymize_kw]
    rfl
end

theorem acc_congr_of_anonymize (env : Env) (a b : Elem) (h : anonymize a = anonymize b) : a.acc env = b.acc env := by
  rw [← acc_anonymize env a, ← acc_anonymize env b, h]

end Statham
