/-
  Serialization ignores attribute names and, up to `title`, class names: two trees that are the same once attribute
  and class names are forgotten (`anonymize`) serialize to the same schema once titles are blanked (`untitle`).
  This is the serialization half of the C17 congruence clause for pairs equal up to names.
-/
import StathamModel.Lemmas.SerOk
import StathamModel.Lemmas.AccNames
namespace Statham

mutual
def untitle : Schema → Schema
  | .bool b => .bool b
  | .mk k items addI cont props pats addP pn deps anyOf oneOf allOf not =>
    .mk { k with title := none } (untitleL items) (untitleO addI) (untitleO cont) (untitleN props) (untitleN pats)
      (untitleO addP) (untitleO pn) (untitleD deps) (untitleL anyOf) (untitleL oneOf) (untitleL allOf) (untitleO not)
def untitleO : Option Schema → Option Schema
  | none => none
  | some s => some (untitle s)
def untitleL : List Schema → List Schema
  | [] => []
  | s :: ss => untitle s :: untitleL ss
def untitleN : List (String × Schema) → List (String × Schema)
  | [] => []
  | (k, s) :: r => (k, untitle s) :: untitleN r
def untitleD : List (Key × Schema) → List (Key × Schema)
  | [] => []
  | (k, s) :: r => (k, untitle s) :: untitleD r
end

theorem mergedRequired_keys (kw : Kw) (a b : List (Key × JVal))
    (h : (a.filter fun p => p.1.required).map (fun p => p.1.src) = (b.filter fun p => p.1.required).map (fun p => p.1.src)) :
    mergedRequired kw a = mergedRequired kw b := by
  unfold mergedRequired
  simp only [h]

theorem anonP_eq_map (props : List (Key × Elem)) : anonP props = props.map fun p => (normKey p.1, anonymize p.2) := by
  induction props with
  | nil => rw [anonP]; rfl
  | cons p r ih => obtain ⟨k, e⟩ := p; rw [anonP, ih]; rfl

theorem flagged_anonP (props : List (Key × Elem)) :
    (((anonP props).map fun p => (p.1, JVal.null)).filter fun p => p.1.required).map (fun p => p.1.src) =
    ((props.map fun p => (p.1, JVal.null)).filter fun p => p.1.required).map (fun p => p.1.src) := by
  rw [anonP_eq_map, List.map_map, List.filter_map, List.filter_map, List.map_map, List.map_map]
  exact List.map_congr_left fun p _ => normKey_src p.1

theorem anonP_isEmpty (props : List (Key × Elem)) : (anonP props).isEmpty = props.isEmpty := by
  rw [anonP_eq_map, List.isEmpty_map]

theorem emittedRequired_anonP (kw : Kw) (props : List (Key × Elem)) :
    emittedRequired kw (anonP props) = emittedRequired kw props := by
  unfold emittedRequired
  rw [anonP_isEmpty, mergedRequired_keys kw _ _ (flagged_anonP props)]

theorem typeSpecOf_anonCls (c : Cls) : typeSpecOf (anonCls c) = typeSpecOf c := by
  cases c <;> rfl

theorem membersFor_anonCls {α} (c m : Cls) (hm : m = .anyOf ∨ m = .oneOf ∨ m = .allOf) (l : List α) :
    membersFor (anonCls c) m l = membersFor c m l := by
  unfold membersFor
  rcases hm with rfl | rfl | rfl <;> cases c <;> rfl

theorem notFor_anonCls {α} (c : Cls) (l : List α) : notFor (anonCls c) l = notFor c l := by
  unfold notFor
  cases c <;> rfl

theorem nodeSKw_anon (c : Cls) (kw : Kw) (props : List (Key × Elem)) :
    { nodeSKw (anonCls c) kw (anonP props) with title := none } = { nodeSKw c kw props with title := none } := by
  unfold nodeSKw
  simp only [typeSpecOf_anonCls, emittedRequired_anonP, anonP_isEmpty]
  cases c <;> rfl

theorem untitle_false : untitle (.bool false) = .bool false := by rw [untitle]

theorem untitle_addl (o : Option Schema) (b : Bool) : untitleO (addlSchema o b) = addlSchema (untitleO o) b := by
  cases o with
  | none =>
    cases b
    · show untitleO (some (Schema.bool false)) = addlSchema (untitleO none) false
      simp only [untitleO, untitle_false]
      rfl
    · show untitleO none = addlSchema (untitleO none) true
      simp only [untitleO]
      rfl
  | some s => rw [untitleO]; rfl

theorem untitleL_membersFor (c m : Cls) (l : List Schema) : untitleL (membersFor c m l) = membersFor c m (untitleL l) := by
  unfold membersFor
  split
  · rfl
  · rw [untitleL]

theorem untitleO_notFor (c : Cls) (l : List Schema) : untitleO (notFor c l) = notFor c (untitleL l) := by
  unfold notFor
  split
  · cases l with
    | nil => rw [untitleL]; simp only [List.head?_nil]; rw [untitleO]
    | cons x xs => rw [untitleL]; simp only [List.head?_cons]; rw [untitleO]
  · rw [untitleO]

theorem untitle_toSchema_mk {c : Cls} {kw : Kw} {items : List Elem} {addI cont : Option Elem} {props pats : List (Key × Elem)}
    {addP pn : Option Elem} {deps : List (Key × Elem)} {els : List Elem} (hc : c ≠ .nothing) :
    untitle (toSchema (.mk c kw items addI cont props pats addP pn deps els)) =
      .mk { nodeSKw c kw props with title := none } (untitleL (tsList items))
        (addlSchema (untitleO (tsOpt addI)) kw.addItemsB) (untitleO (tsOpt cont)) (untitleN (tsProps props))
        (untitleN (tsPats pats)) (addlSchema (untitleO (tsOpt addP)) kw.addPropsB) (untitleO (tsOpt pn))
        (untitleD (tsDeps deps)) (membersFor c .anyOf (untitleL (tsList els))) (membersFor c .oneOf (untitleL (tsList els)))
        (membersFor c .allOf (untitleL (tsList els))) (notFor c (untitleL (tsList els))) := by
  rw [toSchema_mk hc, untitle, untitle_addl, untitle_addl, untitleL_membersFor, untitleL_membersFor, untitleL_membersFor,
    untitleO_notFor]

mutual
/-- **Serialization sees names only as titles.** -/
theorem untitle_toSchema_anon : ∀ (e : Elem), untitle (toSchema (anonymize e)) = untitle (toSchema e)
  | .mk c kw items addI cont props pats addP pn deps els => by
    by_cases hc : c = .nothing
    · subst hc
      rw [anonymize, toSchema, toSchema]
      simp only [anonCls, beq_self_eq_true, if_true]
    · rw [anonymize, untitle_toSchema_mk (mt anonCls_eq_nothing.mp hc), untitle_toSchema_mk hc, nodeSKw_anon,
        membersFor_anonCls c .anyOf (Or.inl rfl), membersFor_anonCls c .oneOf (Or.inr (Or.inl rfl)),
        membersFor_anonCls c .allOf (Or.inr (Or.inr rfl)), notFor_anonCls]
      rw [untitleL_ts items, untitleO_ts addI, untitleO_ts cont, untitleN_props props, untitleN_pats pats, untitleO_ts addP,
        untitleO_ts pn, untitleD_ts deps, untitleL_ts els]
theorem untitleO_ts : ∀ (o : Option Elem), untitleO (tsOpt (anonO o)) = untitleO (tsOpt o)
  | none => by rw [anonO]
  | some e => by rw [anonO, tsOpt, tsOpt, untitleO, untitleO, untitle_toSchema_anon e]
theorem untitleL_ts : ∀ (l : List Elem), untitleL (tsList (anonL l)) = untitleL (tsList l)
  | [] => by rw [anonL]
  | e :: es => by rw [anonL, tsList, tsList, untitleL, untitleL, untitle_toSchema_anon e, untitleL_ts es]
theorem untitleN_props : ∀ (l : List (Key × Elem)), untitleN (tsProps (anonP l)) = untitleN (tsProps l)
  | [] => by rw [anonP]
  | (k, e) :: r => by
    rw [anonP, tsProps, tsProps, untitleN, untitleN, untitle_toSchema_anon e, untitleN_props r, normKey_src]
theorem untitleN_pats : ∀ (l : List (Key × Elem)), untitleN (tsPats (anonK l)) = untitleN (tsPats l)
  | [] => by rw [anonK]
  | (k, e) :: r => by rw [anonK, tsPats, tsPats, untitleN, untitleN, untitle_toSchema_anon e, untitleN_pats r]
theorem untitleD_ts : ∀ (l : List (Key × Elem)), untitleD (tsDeps (anonK l)) = untitleD (tsDeps l)
  | [] => by rw [anonK]
  | (k, e) :: r => by rw [anonK, tsDeps, tsDeps, untitleD, untitleD, untitle_toSchema_anon e, untitleD_ts r]
end

theorem ser_congr_of_anonymize (a b : Elem) (h : anonymize a = anonymize b) :
    untitle (toSchema a) = untitle (toSchema b) := by
  rw [← untitle_toSchema_anon a, ← untitle_toSchema_anon b, h]

end Statham
