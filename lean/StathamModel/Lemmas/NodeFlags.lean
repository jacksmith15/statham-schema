/-
  What the flags of one schema node say, in the form the proofs use.  `Good` (C01) and `nfNodeB` (C06) ask the same
  things of `type`, of the property names and of the literals; `ParseOk` and `ParseNF` both read them here.
-/
import StathamModel.Lemmas.Build
import StathamModel.Good
namespace Statham

theorem parseLiteral_clean : ∀ (v : JVal), litClean v = true → parseLiteral v = v
  | .null, _ => by simp [parseLiteral]
  | .bool _, _ => by simp [parseLiteral]
  | .num _, _ => by simp [parseLiteral]
  | .str _, _ => by simp [parseLiteral]
  | .arr xs, h => by
    rw [parseLiteral, parseLits_clean xs (by simpa [litClean] using h)]
  | .obj kvs, h => by
    rw [parseLiteral, parseLitKV_clean kvs (by simpa [litClean] using h)]
where
  parseLits_clean : ∀ (xs : List JVal), litClean.cleanL xs = true → parseLiteral.lits xs = xs
    | [], _ => by rw [parseLiteral.lits]
    | x :: xs, h => by
      simp only [litClean.cleanL, Bool.and_eq_true] at h
      rw [parseLiteral.lits, parseLiteral_clean x h.1, parseLits_clean xs h.2]
  parseLitKV_clean : ∀ (kvs : List (String × JVal)), litClean.cleanKV kvs = true → parseLiteral.litKV kvs = kvs
    | [], _ => by rw [parseLiteral.litKV]
    | (k, v) :: r, h => by
      simp only [litClean.cleanKV, Bool.and_eq_true, bne_iff_ne, ne_eq] at h
      rw [parseLiteral.litKV, if_neg h.1.1, parseLiteral_clean v h.1.2, parseLitKV_clean r h.2]

theorem map_parseLiteral_clean (l : List JVal) (h : l.all litClean = true) : l.map parseLiteral = l := by
  induction l with
  | nil => rfl
  | cons x xs ih =>
    simp only [List.all_cons, Bool.and_eq_true] at h
    rw [List.map_cons, parseLiteral_clean x h.1, ih h.2]

def typeOK (k : SKw) : Prop :=
  match k.type with
  | .none => True
  | .single t => t ∈ knownTypes
  | .list ts => ts ≠ [] ∧ ∀ t ∈ ts, t ∈ knownTypes

/-- `typeOK` off the node flags; `q` is what the flag asks of a type list -/
theorem typeOK_of_flag {k : SKw} {q : List String → Bool}
    (hq : ∀ ts, q ts = true → (!ts.isEmpty && ts.all (knownTypes.contains ·)) = true)
    (h : (match k.type with
      | .none => true
      | .single t => knownTypes.contains t
      | .list ts => q ts) = true) : typeOK k := by
  unfold typeOK
  cases ht : k.type with
  | none => trivial
  | single t => simpa [ht] using h
  | list ts =>
    rw [ht] at h
    have h := hq ts h
    simp only [Bool.and_eq_true, Bool.not_eq_true', List.all_eq_true] at h
    exact ⟨fun e => by subst e; simp at h, fun t htm => by simpa using h.2 t htm⟩

theorem injOn_of_flag {cx : PCtx} {k : SKw} {props : List (String × Schema)} (h : noCollapse cx k props = true) :
    InjOn cx (props.map (·.1) ++ k.required.getD []) := by
  unfold noCollapse at h
  simp only [Bool.and_eq_true, List.all_eq_true, Bool.or_eq_true, bne_iff_ne, ne_eq, beq_iff_eq] at h
  intro a ha b hb hab
  rcases h.2 a ha b hb with h1 | h1
  · exact absurd hab h1
  · exact h1

theorem nonempty_of_flag {cx : PCtx} {k : SKw} {props : List (String × Schema)} (h : noCollapse cx k props = true) :
    ∀ n ∈ props.map (·.1) ++ k.required.getD [], n ≠ "" := by
  unfold noCollapse at h
  simp only [Bool.and_eq_true, List.all_eq_true, bne_iff_ne, ne_eq] at h
  exact h.1

theorem parseNamed_names (cx : PCtx) (l : List (String × Schema)) : (parseNamed cx l).map (·.1) = l.map (·.1) := by
  induction l with
  | nil => rw [parseNamed]; rfl
  | cons p l ih => obtain ⟨k, s⟩ := p; rw [parseNamed]; simp [ih]

/-- the record `parseE` builds in its `.mk` clause (so it appears after `rw [parseE]`), named so that `KidsRel` and
    `NodeNF` can be stated of it -/
def kidsOf (cx : PCtx) (items : List Schema) (addI cont : Option Schema) (props pats : List (String × Schema))
    (addP pn : Option Schema) (deps : List (Key × Schema)) (anyOf oneOf allOf : List Schema)
    (not : Option Schema) : Kids :=
  { items := parseList cx items, addItems := parseAddl cx addI, contains := parseOpt cx cont,
    props := parseNamed cx props, patProps := parseNamed cx pats, addProps := parseAddl cx addP,
    propNames := parseOpt cx pn, deps := parseDeps cx deps, anyOf := parseList cx anyOf,
    oneOf := parseList cx oneOf, allOf := parseList cx allOf, not := parseOpt cx not }

end Statham
