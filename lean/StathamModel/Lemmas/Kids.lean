/-
  The relation between the parsed sub-schemas of a schema object (`Kids`) and the
  specification's validity functions for the same sub-schemas (`D6.SSub`), and what it
  gives for the closures (`VSub`) of the element the parser assembles.  Then what the node lemmas
  (AssembleLeaf, AssembleObj) share about one schema object: the Draft-6 reading of its own keywords (`restOk`),
  the node hypotheses (`NodeOK`), the closures (`subOf`) and the property table (`declared`).
-/
import StathamModel.Lemmas.Items
import StathamModel.Lemmas.Properties
import StathamModel.Lemmas.Build
namespace Statham

/-- `parseAddl`'s reading of `additionalItems` / `additionalProperties` (a literal Boolean stays a Boolean, a schema becomes an
    element) against the specification's sub-schema -/
inductive AddlK (env : Env) : Option Elem × Bool → Option D6.VF → Prop
  | absent : AddlK env (none, true) none
  | lit (b : Bool) : AddlK env (none, b) (some fun _ => b)
  | elem {e : Elem} {g : D6.VF} : ERel env e g → AddlK env (some e, true) (some g)

/-- every parsed sub-schema refines the specification's validity function for the same sub-schema -/
structure KidsRel (env : Env) (kids : Kids) (σ : D6.SSub) : Prop where
  items : All2 (ERel env) kids.items σ.items
  addItems : AddlK env kids.addItems σ.addItems
  contains : OptRel (ERel env) kids.contains σ.contains
  props : All2 (fun (a : String × Elem) (b : String × Bool × D6.VF) =>
      a.1 = b.1 ∧ ERel env a.2 b.2.2 ∧ b.2.1 = a.2.kw.default.isSome) kids.props σ.props
  patProps : All2 (fun (a : String × Elem) (b : String × D6.VF) => a.1 = b.1 ∧ ERel env a.2 b.2)
      kids.patProps σ.patProps
  addProps : AddlK env kids.addProps σ.addProps
  propNames : OptRel (ERel env) kids.propNames σ.propNames
  deps : All2 (fun (a : Key × Elem) (b : Key × D6.VF) => a.1 = b.1 ∧ ERel env a.2 b.2) kids.deps σ.deps
  anyOf : All2 (ERel env) kids.anyOf σ.anyOf
  oneOf : All2 (ERel env) kids.oneOf σ.oneOf
  allOf : All2 (ERel env) kids.allOf σ.allOf
  not : OptRel (ERel env) kids.not σ.not

theorem accOpt_rel {env : Env} {o : Option Elem} {so : Option D6.VF} (h : OptRel (ERel env) o so) :
    OptRel RC (accOpt env o) so := by
  cases h with
  | none => rw [accOpt]; exact OptRel.none
  | some hr => rw [accOpt]; exact OptRel.some hr

theorem acc_nothing_cls (env : Env) (e : Elem) (h : e.cls = .nothing) (x : JVal) :
    e.acc env (.val x) ≠ .pass := by
  cases e with
  | mk c kw items addI cont props pats addP pn deps els =>
    simp only [Elem.cls] at h
    subst h
    rw [Elem.acc]
    exact createV_type_fail _ _ _ _ _ rfl

theorem accAddl_rel {env : Env} {p : Option Elem × Bool} {so : Option D6.VF}
    (h : AddlK env p so) : AddlRel (accAddl env p.1) p.2 so := by
  cases h with
  | absent => rw [accAddl]; exact AddlRel.absent
  | lit b => rw [accAddl]; exact AddlRel.lit b
  | @elem e g hr =>
    rw [accAddl]
    refine AddlRel.elem hr ?_
    intro ht x
    have : e.cls = .nothing := by simpa using ht
    exact acc_nothing_cls env e this x

theorem accAddlP_rel {env : Env} {p : Option Elem × Bool} {so : Option D6.VF}
    (h : AddlK env p so) : AddlRelP (accOpt env p.1) p.2 so := by
  cases h with
  | absent => rw [accOpt]; exact AddlRelP.absent
  | lit b => rw [accOpt]; exact AddlRelP.lit b
  | elem hr => rw [accOpt]; exact AddlRelP.elem hr

theorem accProps_eq_map (env : Env) (l : List (Key × Elem)) :
    accProps env l = l.map fun p => (p.1, p.2.kw.default, p.2.acc env) := by
  induction l with
  | nil => rw [accProps]; rfl
  | cons p l ih => obtain ⟨k, e⟩ := p; rw [accProps, ih]; rfl

theorem accKeyed_eq_map (env : Env) (l : List (Key × Elem)) :
    accKeyed env l = l.map fun p => (p.1, p.2.acc env) := by
  induction l with
  | nil => rw [accKeyed]; rfl
  | cons p l ih => obtain ⟨k, e⟩ := p; rw [accKeyed, ih]; rfl

theorem accProps_map (env : Env) (f : String → Key) (ps : List (String × Elem)) :
    accProps env (ps.map fun kv => (f kv.1, kv.2)) =
      ps.map fun kv => (f kv.1, kv.2.kw.default, kv.2.acc env) := by
  rw [accProps_eq_map, List.map_map]; rfl

theorem accProps_append (env : Env) (a b : List (Key × Elem)) :
    accProps env (a ++ b) = accProps env a ++ accProps env b := by
  simp only [accProps_eq_map, List.map_append]

theorem accKeyed_map (env : Env) (f : String → Key) (ps : List (String × Elem)) :
    accKeyed env (ps.map fun kv => (f kv.1, kv.2)) = ps.map fun kv => (f kv.1, kv.2.acc env) := by
  rw [accKeyed_eq_map, List.map_map]; rfl

theorem props_rel {env : Env} {cx : PCtx} {req : List String} {ps : List (String × Elem)} {sp : List SProp}
    (h : All2 (fun (a : String × Elem) (b : SProp) =>
      a.1 = b.1 ∧ ERel env a.2 b.2.2 ∧ b.2.1 = a.2.kw.default.isSome) ps sp)
    (hne : ∀ kv ∈ ps, kv.1 ≠ "") :
    All2 PropRel (ps.map fun kv => (mkKey cx req kv.1, kv.2.kw.default, kv.2.acc env)) sp :=
  (h.imp fun a ha _ _ hr => (⟨(src_mkKey cx req a.1 (hne a ha)).trans hr.1, hr.2.1, hr.2.2⟩ :
    PropRel (mkKey cx req a.1, a.2.kw.default, a.2.acc env) _)).map_left

theorem props_names {env : Env} {ps : List (String × Elem)} {sp : List SProp}
    (h : All2 (fun (a : String × Elem) (b : SProp) =>
      a.1 = b.1 ∧ ERel env a.2 b.2.2 ∧ b.2.1 = a.2.kw.default.isSome) ps sp) :
    ps.map (·.1) = sp.map (·.1) := by
  induction h with
  | nil => rfl
  | cons hr _ ih => simp [hr.1, ih]

theorem pats_rel {env : Env} {ps : List (String × Elem)} {sp : List (String × D6.VF)}
    (h : All2 (fun (a : String × Elem) (b : String × D6.VF) => a.1 = b.1 ∧ ERel env a.2 b.2) ps sp) :
    All2 PatRel (ps.map fun kv => (({ name := kv.1 } : Key), kv.2.acc env)) sp :=
  All2.map_left (r := PatRel) h

theorem deps_rel {env : Env} {ds : List (Key × Elem)} {sd : List (Key × D6.VF)}
    (h : All2 (fun (a : Key × Elem) (b : Key × D6.VF) => a.1 = b.1 ∧ ERel env a.2 b.2) ds sd) :
    All2 DepRel (ds.map fun p => (p.1, p.2.acc env)) sd :=
  All2.map_left (r := DepRel) h

theorem orderDeps_acc (env : Env) (ds : List (Key × Elem)) :
    accKeyed env (orderDeps ds) =
      ((ds.map fun p => (p.1, p.2.acc env)).filter isNamesDep) ++
        ((ds.map fun p => (p.1, p.2.acc env)).filter fun d => !isNamesDep d) := by
  rw [accKeyed_eq_map, orderDeps, List.map_append, List.filter_map, List.filter_map]
  congr 2
  apply List.filter_congr
  intro d _
  show d.1.names.isNone = !d.1.names.isSome
  cases d.1.names <;> rfl

/-- everything of `validCore` except `type` and the composition keywords;
    `lenient`: `required` waives the names whose property declares a default -/
def restOk (env : Env) (lenient : Bool) (k : SKw) (σ : D6.SSub) (v : JVal) : Bool :=
  D6.literalOk k v &&
  match v with
  | .num x => D6.numOk k x
  | .str s => D6.strOk env k s
  | .arr xs => D6.arrOk k xs && (D6.itemsOk k σ xs && D6.containsOk σ xs)
  | .obj kvs => D6.objSizeOk k kvs && D6.objectOk env (fun _ => lenient) k σ kvs
  | _ => true

theorem objectOk_len (env : Env) (ℓ : SKw → Bool) (k : SKw) (σ : D6.SSub) (kvs : List (String × JVal)) :
    D6.objectOk env ℓ k σ kvs = D6.objectOk env (fun _ => ℓ k) k σ kvs := rfl

theorem validCore_split (env : Env) (ℓ : SKw → Bool) (k : SKw) (σ : D6.SSub) (v : JVal) :
    D6.validCore env ℓ k σ v =
      ((D6.typeOk k.type v && restOk env (ℓ k) k σ v) && D6.compositionOk k σ v) := by
  unfold D6.validCore D6.scalarOk restOk
  cases v <;> simp only [objectOk_len env ℓ] <;> ac_rfl

/-- The node hypotheses, phrased on the parsed children, and the `Good` flag each comes from: `lit` ← `litClean`,
    `mul` ← `intMultipleOf`, `items` / `propNames` / `req` ← `wf`, `inj` / `nonempty` ← `noCollapse`, `synth` ← `noSynthetic`. -/
structure NodeOK (cx : PCtx) (k : SKw) (kids : Kids) (σ : D6.SSub) : Prop where
  lit : litCleanNode k = true
  mul : intMultipleOf k = true
  items : match k.itemsKind with
    | .single => σ.items.length = 1
    | _ => True
  propNames : distinct (kids.props.map (·.1)) = true
  req : distinct (k.required.getD []) = true
  inj : InjOn cx (kids.props.map (·.1) ++ k.required.getD [])
  synth : typeHasObject k = true →
    kids.addProps = (none, true) ∨ ∀ n ∈ k.required.getD [], n ∈ kids.props.map (·.1)
  nonempty : ∀ n ∈ kids.props.map (·.1) ++ k.required.getD [], n ≠ ""

/-- the closures of an element assembled from `partsOf cx k kids` -/
def subOf (env : Env) (p : Parts) : VSub :=
  { items := accList env p.items
    addItems := accAddl env p.addItems
    contains := accOpt env p.contains
    props := accProps env p.props
    patProps := accKeyed env p.patProps
    addProps := accOpt env p.addProps
    propNames := accOpt env p.propNames
    deps := accKeyed env p.deps
    elements := accList env [] }

def declared (env : Env) (cx : PCtx) (k : SKw) (kids : Kids) : List VProp :=
  kids.props.map fun kv => (mkKey cx (k.required.getD []) kv.1, kv.2.kw.default, kv.2.acc env)

theorem srcs_declared (env : Env) (cx : PCtx) (k : SKw) (kids : Kids)
    (hne : ∀ kv ∈ kids.props, kv.1 ≠ "") :
    srcs (declared env cx k kids) = kids.props.map (·.1) := by
  unfold srcs declared
  rw [List.map_map]
  apply List.map_congr_left
  intro kv hkv
  exact src_mkKey cx _ kv.1 (hne kv hkv)

theorem NodeOK.propsNonempty {cx : PCtx} {k : SKw} {kids : Kids} {σ : D6.SSub} (N : NodeOK cx k kids σ) :
    ∀ kv ∈ kids.props, kv.1 ≠ "" :=
  fun kv hkv => N.nonempty kv.1 (List.mem_append_left _ (List.mem_map.mpr ⟨kv, hkv, rfl⟩))

theorem accProps_build (env : Env) (cx : PCtx) (k : SKw) (kids : Kids) (σ : D6.SSub) (N : NodeOK cx k kids σ) :
    accProps env (buildProps cx (k.required.getD []) kids.props) = declared env cx k kids := by
  rw [buildProps_map cx _ _ N.propNames fun a ha b hb => N.inj a (List.mem_append_left _ ha) b (List.mem_append_left _ hb),
    accProps_map]
  rfl

theorem setup_untyped {env : Env} {cx : PCtx} {k : SKw} {kids : Kids} {σ : D6.SSub}
    (K : KidsRel env kids σ) (N : NodeOK cx k kids σ) (kw : Kw) (hb : kw.addPropsB = kids.addProps.2) :
    ObjSetup kw (subOf env (partsOf cx k kids)) σ (declared env cx k kids) [] where
  split := by
    simp only [subOf, partsOf, List.append_nil]
    exact accProps_build env cx k kids σ N
  decl := props_rel K.props N.propsNonempty
  dist := by rw [List.append_nil, srcs_declared _ _ _ _ N.propsNonempty]; exact N.propNames
  synth := fun p hp => by cases hp
  perm := fun h => absurd rfl h
  pats := by
    simp only [subOf, partsOf]
    rw [accKeyed_map env (fun n => ({ name := n } : Key))]
    exact pats_rel K.patProps
  addl := hb ▸ accAddlP_rel K.addProps

theorem mem_requiredNames {kw : Kw} {info : List (Key × Option JVal)} {n : String} :
    n ∈ requiredNames kw info ↔
      n ∈ kw.required.getD [] ∨ ∃ p ∈ info, p.1.required = true ∧ p.2 = none ∧ p.1.src = n := by
  simp only [requiredNames, List.mem_append, List.mem_map, List.mem_filter, Bool.and_eq_true,
    Option.isNone_iff_eq_none, and_assoc]

/-- `required` on an untyped element: the explicit list already contains the flagged properties -/
theorem required_strict (env : Env) (cx : PCtx) (k : SKw) (kids : Kids) (σ : D6.SSub) (d : Option JVal)
    (p : Parts) (kvs : List (String × JVal)) (hne : ∀ kv ∈ kids.props, kv.1 ≠ "") :
    ((requiredNames (baseKw k p d) ((declared env cx k kids).map fun q => (q.1, q.2.1))).all
        fun n => (JVal.keys kvs).contains n) = D6.requiredOk false k σ kvs := by
  apply Bool.eq_iff_iff.mpr
  simp only [D6.requiredOk, List.all_eq_true, mem_requiredNames, Bool.false_and, Bool.or_false]
  refine ⟨fun h n hn => h n (Or.inl hn), fun h n hn => h n (hn.elim id ?_)⟩
  rintro ⟨q, hq, hr, -, rfl⟩
  obtain ⟨q0, hq0, rfl⟩ := List.mem_map.mp hq
  obtain ⟨kv, hkv, rfl⟩ := List.mem_map.mp hq0
  rw [show (mkKey cx (k.required.getD []) kv.1).src = kv.1 from src_mkKey cx _ _ (hne kv hkv)]
  exact List.contains_iff_mem.mp hr

end Statham
