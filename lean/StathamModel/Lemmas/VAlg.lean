/-
  Algebra of verdicts and the refinement relation used by C01/C03:
  `R a b` — the model's verdict `a` is `crash` (outside the arithmetic domain) or is the
  Boolean `b` the specification gives.
-/
import StathamModel.Acc
namespace Statham

inductive All2 {α β} (r : α → β → Prop) : List α → List β → Prop
  | nil : All2 r [] []
  | cons {a b as bs} : r a b → All2 r as bs → All2 r (a :: as) (b :: bs)

inductive OptRel {α β} (r : α → β → Prop) : Option α → Option β → Prop
  | none : OptRel r none none
  | some {a b} : r a b → OptRel r (some a) (some b)

theorem All2.length_eq {α β} {r : α → β → Prop} {as : List α} {bs : List β} (h : All2 r as bs) :
    as.length = bs.length := by
  induction h with
  | nil => rfl
  | cons _ _ ih => simp [ih]

theorem All2.isEmpty_eq {α β} {r : α → β → Prop} {as : List α} {bs : List β} (h : All2 r as bs) :
    as.isEmpty = bs.isEmpty := by
  cases h <;> rfl

theorem All2.exists_right {α β} {r : α → β → Prop} {as : List α} {bs : List β} (h : All2 r as bs)
    {a : α} (ha : a ∈ as) : ∃ b, b ∈ bs ∧ r a b := by
  induction h with
  | nil => cases ha
  | @cons a' b' as' bs' hab _ ih =>
    rcases List.mem_cons.mp ha with h | h
    · subst h; exact ⟨b', List.mem_cons_self .., hab⟩
    · obtain ⟨b, hb, hr⟩ := ih h
      exact ⟨b, List.mem_cons_of_mem _ hb, hr⟩

theorem All2.exists_left {α β} {r : α → β → Prop} {as : List α} {bs : List β} (h : All2 r as bs)
    {b : β} (hb : b ∈ bs) : ∃ a, a ∈ as ∧ r a b := by
  induction h with
  | nil => cases hb
  | @cons a' b' as' bs' hab _ ih =>
    rcases List.mem_cons.mp hb with h | h
    · subst h; exact ⟨a', List.mem_cons_self .., hab⟩
    · obtain ⟨a, ha, hr⟩ := ih h
      exact ⟨a, List.mem_cons_of_mem _ ha, hr⟩

theorem All2.imp {α β} {r s : α → β → Prop} {as : List α} {bs : List β} (h : All2 r as bs)
    (hrs : ∀ a ∈ as, ∀ b ∈ bs, r a b → s a b) : All2 s as bs := by
  induction h with
  | nil => exact All2.nil
  | cons hab _ ih =>
    exact All2.cons (hrs _ (.head _) _ (.head _) hab) (ih fun a ha b hb => hrs a (.tail _ ha) b (.tail _ hb))

theorem All2.map {α β γ δ} {r : γ → δ → Prop} {f : α → γ} {g : β → δ} {as : List α} {bs : List β}
    (h : All2 (fun a b => r (f a) (g b)) as bs) : All2 r (as.map f) (bs.map g) := by
  induction h with
  | nil => exact All2.nil
  | cons hab _ ih => exact All2.cons hab ih

theorem All2.map_left {α β γ} {r : γ → β → Prop} {f : α → γ} {as : List α} {bs : List β}
    (h : All2 (fun a b => r (f a) b) as bs) : All2 r (as.map f) bs := by
  induction h with
  | nil => exact All2.nil
  | cons hab _ ih => exact All2.cons hab ih

theorem All2.map_self {α γ δ} {r : γ → δ → Prop} {f : α → γ} {g : α → δ} {l : List α}
    (h : ∀ x ∈ l, r (f x) (g x)) : All2 r (l.map f) (l.map g) := by
  induction l with
  | nil => exact All2.nil
  | cons a l ih => exact All2.cons (h a (.head _)) (ih fun x hx => h x (.tail _ hx))

theorem All2.append {α β} {r : α → β → Prop} {a₁ a₂ : List α} {b₁ b₂ : List β} (h₁ : All2 r a₁ b₁)
    (h₂ : All2 r a₂ b₂) : All2 r (a₁ ++ a₂) (b₁ ++ b₂) := by
  induction h₁ with
  | nil => exact h₂
  | cons hab _ ih => exact All2.cons hab ih

namespace V

@[simp] theorem and_pass_left (a : V) : V.and .pass a = a := by cases a <;> rfl
@[simp] theorem and_pass_right (a : V) : V.and a .pass = a := by cases a <;> rfl
@[simp] theorem and_crash_left (a : V) : V.and .crash a = .crash := by cases a <;> rfl
@[simp] theorem and_crash_right (a : V) : V.and a .crash = .crash := by cases a <;> rfl

theorem and_eq_pass {a b : V} : V.and a b = .pass ↔ a = .pass ∧ b = .pass := by
  cases a <;> cases b <;> simp [V.and]

theorem and_eq_crash {a b : V} : V.and a b = .crash ↔ a = .crash ∨ b = .crash := by
  cases a <;> cases b <;> simp [V.and]

@[simp] theorem ofBool_true : V.ofBool true = .pass := rfl
@[simp] theorem ofBool_false : V.ofBool false = .reject := rfl
theorem ofBool_ne_crash (b : Bool) : V.ofBool b ≠ .crash := by cases b <;> simp [V.ofBool]
theorem ofBool_eq_pass {b : Bool} : V.ofBool b = .pass ↔ b = true := by cases b <;> simp [V.ofBool]
theorem ofBool_and (a b : Bool) : (V.ofBool a).and (V.ofBool b) = V.ofBool (a && b) := by
  cases a <;> cases b <;> rfl

@[simp] theorem all_nil {α} (f : α → V) : V.all f [] = .pass := rfl
@[simp] theorem all_cons {α} (f : α → V) (a : α) (l : List α) : V.all f (a :: l) = (f a).and (V.all f l) := rfl

theorem all_eq_pass {α} {f : α → V} {l : List α} : V.all f l = .pass ↔ ∀ x ∈ l, f x = .pass := by
  induction l with
  | nil => simp
  | cons a l ih => simp [and_eq_pass, ih]

theorem all_eq_crash {α} {f : α → V} {l : List α} : V.all f l = .crash ↔ ∃ x ∈ l, f x = .crash := by
  induction l with
  | nil => simp
  | cons a l ih => simp [and_eq_crash, ih]

theorem and_comm (a b : V) : V.and a b = V.and b a := by cases a <;> cases b <;> rfl
theorem and_assoc (a b c : V) : V.and (V.and a b) c = V.and a (V.and b c) := by
  cases a <;> cases b <;> cases c <;> rfl

theorem and_left_comm (a b c : V) : V.and a (V.and b c) = V.and b (V.and a c) := by
  cases a <;> cases b <;> cases c <;> rfl

instance : Std.Associative V.and := ⟨and_assoc⟩

instance : Std.Commutative V.and := ⟨and_comm⟩

theorem all_perm {α} (f : α → V) {l₁ l₂ : List α} (h : l₁.Perm l₂) : V.all f l₁ = V.all f l₂ :=
  h.foldr_eq' (fun x _ y _ z => and_left_comm (f y) (f x) z) _

theorem ofBool_all_and {α} (a : α → Bool) (b : α → V) (l : List α) :
    (V.ofBool (l.all a)).and (V.all b l) = V.all (fun d => (V.ofBool (a d)).and (b d)) l := by
  induction l with
  | nil => rfl
  | cons x l ih =>
    simp only [List.all_cons, all_cons, ← ih, ← ofBool_and]
    ac_rfl

theorem all_map {α β} (f : β → V) (g : α → β) (l : List α) : V.all f (l.map g) = V.all (fun a => f (g a)) l := by
  induction l with
  | nil => rfl
  | cons a l ih => simp [ih]

theorem and_ne_crash {a b : V} (ha : a ≠ .crash) (hb : b ≠ .crash) : V.and a b ≠ .crash :=
  fun h => (and_eq_crash.mp h).elim ha hb

theorem all_ne_crash {α} {f : α → V} {l : List α} (h : ∀ x ∈ l, f x ≠ .crash) : V.all f l ≠ .crash := by
  intro hc
  obtain ⟨x, hx, hxc⟩ := V.all_eq_crash.mp hc
  exact h x hx hxc

theorem any_ne_crash {α} {f : α → V} {l : List α} (h : ∀ x ∈ l, f x ≠ .crash) : V.any f l ≠ .crash := by
  unfold V.any
  have : l.any (fun a => f a == .crash) = false := by
    simp only [List.any_eq_false, beq_iff_eq]; exact h
  rw [this]
  exact V.ofBool_ne_crash _

theorem optCheck_eq_crash {α} {o : Option α} {f : α → V} :
    optCheck o f = .crash ↔ ∃ a, o = some a ∧ f a = .crash := by
  cases o <;> simp [optCheck]

end V

theorem any_congr_mem {α} {p q : α → Bool} {l : List α} (h : ∀ x ∈ l, p x = q x) : l.any p = l.any q := by
  induction l with
  | nil => rfl
  | cons a l ih =>
    simp only [List.any_cons, h a (List.mem_cons_self ..), ih fun x hx => h x (List.mem_cons_of_mem _ hx)]

theorem all_congr_mem {α} {p q : α → Bool} {l : List α} (h : ∀ x ∈ l, p x = q x) : l.all p = l.all q := by
  induction l with
  | nil => rfl
  | cons a l ih =>
    simp only [List.all_cons, h a (List.mem_cons_self ..), ih fun x hx => h x (List.mem_cons_of_mem _ hx)]

def R (a : V) (b : Bool) : Prop := a = .crash ∨ a = V.ofBool b

namespace R

theorem crash (b : Bool) : R .crash b := Or.inl rfl
theorem ofBool (b : Bool) : R (V.ofBool b) b := Or.inr rfl
theorem pass : R .pass true := Or.inr rfl
theorem reject : R .reject false := Or.inr rfl

theorem and {a₁ a₂ : V} {b₁ b₂ : Bool} (h₁ : R a₁ b₁) (h₂ : R a₂ b₂) : R (a₁.and a₂) (b₁ && b₂) := by
  rcases h₁ with h₁ | h₁ <;> rcases h₂ with h₂ | h₂ <;> subst_vars
  · exact Or.inl (by simp)
  · exact Or.inl (by simp)
  · exact Or.inl (by simp)
  · exact Or.inr (V.ofBool_and _ _)

theorem not {a : V} {b : Bool} (h : R a b) : R (notV a) (!b) := by
  rcases h with h | h <;> subst h
  · exact Or.inl rfl
  · cases b <;> exact Or.inr rfl

theorem eq_of_ne_crash {a : V} {b : Bool} (h : R a b) (hc : a ≠ .crash) : a = V.ofBool b := by
  rcases h with h | h
  · exact absurd h hc
  · exact h

theorem congr {a : V} {b b' : Bool} (h : R a b) (e : b = b') : R a b' := e ▸ h
theorem congr2 {a a' : V} {b b' : Bool} (h : R a b) (e1 : a = a') (e2 : b = b') : R a' b' := e1 ▸ e2 ▸ h

theorem all {α} {f : α → V} {g : α → Bool} {l : List α} (h : ∀ x ∈ l, R (f x) (g x)) :
    R (V.all f l) (l.all g) := by
  induction l with
  | nil => exact Or.inr rfl
  | cons a l ih =>
    simp only [V.all_cons, List.all_cons]
    exact R.and (h a (List.mem_cons_self ..)) (ih fun x hx => h x (List.mem_cons_of_mem _ hx))

theorem all2 {α β} {f : α → V} {g : β → Bool} {as : List α} {bs : List β}
    (h : All2 (fun a b => R (f a) (g b)) as bs) : R (V.all f as) (bs.all g) := by
  induction h with
  | nil => exact Or.inr rfl
  | cons hab _ ih => simp only [V.all_cons, List.all_cons]; exact R.and hab ih

theorem any {α} {f : α → V} {g : α → Bool} {l : List α} (h : ∀ x ∈ l, R (f x) (g x)) :
    R (V.any f l) (l.any g) := by
  unfold V.any
  by_cases hc : l.any (fun a => f a == .crash) = true
  · simp only [hc, if_true]; exact Or.inl rfl
  · simp only [Bool.not_eq_true, List.any_eq_false, beq_iff_eq] at hc
    have hany : l.any (fun a => f a == .crash) = false := by
      simp only [List.any_eq_false, beq_iff_eq]; exact hc
    have hp : l.any (fun a => f a == .pass) = l.any g := any_congr_mem fun x hx => by
      have := (h x hx).eq_of_ne_crash (hc x hx)
      rw [this]; cases g x <;> rfl
    rw [hany, hp]
    exact Or.inr rfl
end R

theorem R_of_ne_pass {a : V} (h : a ≠ .pass) : R a false := by
  cases a with
  | pass => exact absurd rfl h
  | reject => exact R.reject
  | crash => exact R.crash _

theorem R_of_iff {a : V} {b : Bool} (h : a ≠ .crash → (a = .pass ↔ b = true)) : R a b := by
  cases a with
  | crash => exact R.crash _
  | pass => have := (h (by simp)).mp rfl; rw [this]; exact R.pass
  | reject =>
    cases b with
    | false => exact R.reject
    | true => have := (h (by simp)).mpr rfl; cases this

theorem R_and_redundant {a b : V} {c : Bool} (hb : R b c) (ha : a ≠ .crash) (hr : a = .reject → b ≠ .pass) :
    R (a.and b) c := by
  cases a with
  | pass => simpa using hb
  | crash => exact absurd rfl ha
  | reject =>
    have := hr rfl
    rcases hb with hb | hb
    · rw [hb]; exact R.crash _
    · cases c
      · rw [hb]; exact R.reject
      · rw [hb] at this; exact absurd rfl this

/-- a conjunction over more members than the specification reads is still related to it when the surplus never rejects -/
theorem R.all_surplus {α β} {f : α → V} {g : β → Bool} {l : List α} {m : List β} (key : β → α)
    (hsub : ∀ y ∈ m, key y ∈ l) (hin : ∀ y ∈ m, R (f (key y)) (g y))
    (hout : ∀ x ∈ l, x ∉ m.map key → f x ≠ .reject) : R (V.all f l) (m.all g) := by
  apply R_of_iff
  intro hnc
  have hnc' : ∀ x ∈ l, f x ≠ .crash := fun x hx hc => hnc (V.all_eq_crash.mpr ⟨x, hx, hc⟩)
  rw [V.all_eq_pass, List.all_eq_true]
  constructor
  · intro hall y hy
    have hr := (hin y hy).eq_of_ne_crash (hnc' _ (hsub y hy))
    rw [hall _ (hsub y hy)] at hr
    exact V.ofBool_eq_pass.mp hr.symm
  · intro hall x hx
    by_cases hm : x ∈ m.map key
    · obtain ⟨y, hy, rfl⟩ := List.mem_map.mp hm
      rw [(hin y hy).eq_of_ne_crash (hnc' _ hx), hall y hy]
      rfl
    · cases hv : f x with
      | pass => rfl
      | reject => exact absurd hv (hout x hx hm)
      | crash => exact absurd hv (hnc' x hx)

theorem all2_no_crash {vs : List V} {bs : List Bool} (h : All2 R vs bs) (hc : vs.any isCrash = false) :
    vs = bs.map V.ofBool := by
  induction h with
  | nil => rfl
  | cons hr _ ih =>
    simp only [List.any_cons, Bool.or_eq_false_iff] at hc
    rcases hr with hr | hr
    · subst hr; simp [isCrash] at hc
    · rw [List.map_cons, ← ih hc.2, hr]

theorem any_isCrash_ofBool (bs : List Bool) : (bs.map V.ofBool).any isCrash = false := by
  induction bs with
  | nil => rfl
  | cons b bs ih => cases b <;> simp [isCrash, V.ofBool, ih]

theorem any_isPass_ofBool (bs : List Bool) : (bs.map V.ofBool).any isPass = bs.any id := by
  induction bs with
  | nil => rfl
  | cons b bs ih => cases b <;> simp [isPass, V.ofBool, ih]

theorem any_isReject_ofBool (bs : List Bool) : (bs.map V.ofBool).any isReject = !bs.all id := by
  induction bs with
  | nil => rfl
  | cons b bs ih => cases b <;> simp [isReject, V.ofBool, ih]

theorem filter_isPass_ofBool (bs : List Bool) :
    ((bs.map V.ofBool).filter isPass).length = (bs.filter id).length := by
  induction bs with
  | nil => rfl
  | cons b bs ih => cases b <;> simp [isPass, V.ofBool, ih, List.filter]

theorem R_attempt_anyOf {vs : List V} {bs : List Bool} (h : All2 R vs bs) :
    R (attemptV .anyOf vs) (bs.any id) := by
  unfold attemptV
  cases hc : vs.any isCrash
  · rw [all2_no_crash h hc, any_isPass_ofBool]
    cases hb : bs.any id with
    | false => simpa using R.reject
    | true => simpa using R.pass
  · exact R.crash _

theorem R_attempt_oneOf {vs : List V} {bs : List Bool} (h : All2 R vs bs) :
    R (attemptV .oneOf vs) ((bs.filter id).length == 1) := by
  unfold attemptV
  cases hc : vs.any isCrash
  · rw [all2_no_crash h hc, any_isPass_ofBool, filter_isPass_ofBool]
    -- some member passes iff the number of passing members is not 0; then the three cases 0, 1, more
    have hany : bs.any id = !((bs.filter id).length == 0) := by
      clear h
      induction bs with
      | nil => rfl
      | cons b bs ih => cases b <;> simp [List.filter, ih]
    rw [hany]
    rcases (bs.filter id).length with _ | _ | n
    · exact R.reject
    · exact R.pass
    · simpa using R.reject
  · exact R.crash _

theorem R_attempt_allOf {vs : List V} {bs : List Bool} (h : All2 R vs bs) (hne : bs ≠ []) :
    R (attemptV .allOf vs) (bs.all id) := by
  unfold attemptV
  cases hc : vs.any isCrash
  · rw [all2_no_crash h hc, any_isPass_ofBool, any_isReject_ofBool]
    simp only [Bool.false_eq_true, if_false]
    cases hall : bs.all id
    · cases hb : bs.any id with
      | false => simpa using R.reject
      | true => simpa using R.reject
    · have : bs.any id = true := by
        cases bs with
        | nil => exact absurd rfl hne
        | cons b bs =>
          simp only [List.all_cons, Bool.and_eq_true, id] at hall
          simp [hall.1]
      simpa [this] using R.pass
  · exact R.crash _

theorem attemptV_ne_crash {mode : Cls} {vs : List V} (h : ∀ v ∈ vs, v ≠ .crash) : attemptV mode vs ≠ .crash := by
  unfold attemptV
  have : vs.any isCrash = false := by
    simp only [List.any_eq_false]
    intro v hv hc
    cases v with
    | crash => exact h _ hv rfl
    | pass => simp [isCrash] at hc
    | reject => simp [isCrash] at hc
  rw [this]
  simp only [Bool.false_eq_true, if_false]
  split
  · simp
  · cases mode with
    | oneOf => simp only; split <;> simp
    | allOf => simp only; split <;> simp
    | _ => simp

end Statham
