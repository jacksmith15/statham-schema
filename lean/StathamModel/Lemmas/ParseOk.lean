/-
  The induction over schemas: for every schema all of whose nodes meet the `Good`
  conditions, the parsed element refines Draft-6 validity (with the library's reading of
  the required-with-default deviation, `typeHasObject`).
-/
import StathamModel.Lemmas.Assemble
namespace Statham

theorem Flags.all_and (a b : Flags) : (a.and b).all = (a.all && b.all) := by
  unfold Flags.and Flags.all
  simp only
  ac_rfl

theorem Flags.all_default : ({} : Flags).all = true := rfl

theorem vList_length (env : Env) (ℓ : SKw → Bool) (l : List Schema) : (D6.vList env ℓ l).length = l.length := by
  induction l with
  | nil => rw [D6.vList]; rfl
  | cons s l ih => rw [D6.vList]; simp [ih]

theorem parseList_isEmpty (cx : PCtx) (l : List Schema) : (parseList cx l).isEmpty = l.isEmpty := by
  cases l with
  | nil => rw [parseList]; rfl
  | cons s l => rw [parseList]; rfl

theorem declaresDefault_eq (s : Schema) : D6.declaresDefault s = declaresDefaultS s := by
  cases s <;> rfl

theorem synth_of_flag {cx : PCtx} {k : SKw} {props : List (String × Schema)} {addP : Option Schema}
    (h : noSynthetic k props addP = true) (hobj : typeHasObject k = true) :
    parseAddl cx addP = (none, true) ∨ ∀ n ∈ k.required.getD [], n ∈ props.map (·.1) := by
  unfold noSynthetic at h
  simp only [hobj, Bool.not_true, Bool.false_or, Bool.or_eq_true] at h
  refine h.imp (fun h => ?_) fun h n hn => ?_
  · cases addP with
    | none => rw [parseAddl]
    | some s =>
      cases s with
      | bool b =>
        cases b with
        | true => rw [parseAddl]
        | false => cases h
      | mk => cases h
  · obtain ⟨p, hp, hpn⟩ := List.any_eq_true.mp (List.all_eq_true.mp h n hn)
    exact List.mem_map.mpr ⟨p, hp, beq_iff_eq.mp hpn⟩

/-- `RC_assembleK` with its node conditions read off the node's flags: the children `kids` (related to `σ`) need only
    agree with the schema's own sub-schemas in number of items, property names, emptiness of the composition lists, and
    have unrestricted additional properties wherever the parser would see them so -/
theorem RC_assembleK_of_flags {env : Env} {cx : PCtx} {k : SKw} {items : List Schema} {props pats : List (String × Schema)}
    {addP : Option Schema} {deps : List (Key × Schema)} {anyOf oneOf allOf : List Schema} {kids : Kids} {σ : D6.SSub}
    (K : KidsRel env kids σ)
    (hf : (nodeFlags cx k items props pats addP deps anyOf oneOf allOf).all = true)
    (hitems : σ.items.length = items.length)
    (hnames : kids.props.map (·.1) = props.map (·.1))
    (haddp : parseAddl cx addP = (none, true) → kids.addProps = (none, true))
    (hany : kids.anyOf.isEmpty = anyOf.isEmpty) (hone : kids.oneOf.isEmpty = oneOf.isEmpty)
    (hall : kids.allOf.isEmpty = allOf.isEmpty) :
    RC ((assembleK cx k kids).acc env) (D6.validCore env typeHasObject k σ) := by
  unfold Flags.all nodeFlags at hf
  simp only [Bool.and_eq_true] at hf
  obtain ⟨⟨⟨⟨⟨hwf, hlit⟩, hmul⟩, hcol⟩, hsyn⟩, _⟩ := hf
  unfold wfNode at hwf
  simp only [Bool.and_eq_true] at hwf
  -- the conjuncts of `wfNode` by position: 1 type, 2 itemsKind, 6–8 the composition flags, 9 distinct property names,
  -- 12 `required` distinct
  obtain ⟨⟨⟨⟨⟨⟨⟨⟨⟨⟨⟨⟨⟨⟨⟨⟨⟨⟨⟨⟨hty, hik⟩, _⟩, _⟩, _⟩, hany'⟩, hone'⟩, hall'⟩, hpd⟩, _⟩, _⟩, hreq⟩, _⟩, _⟩, _⟩, _⟩, _⟩, _⟩, _⟩, _⟩, _⟩ := hwf
  refine RC_assembleK K ⟨hlit, hmul, ?_, ?_, ?_, ?_, ?_, by rw [hnames]; exact nonempty_of_flag hcol⟩ ?_
    (by rw [hany]; simpa using hany') (by rw [hone]; simpa using hone') (by rw [hall]; simpa using hall')
  · cases hk : k.itemsKind <;> simp_all
  · rw [hnames]; exact hpd
  · exact distinct_getD hreq
  · rw [hnames]; exact injOn_of_flag hcol
  · intro hobj
    rw [hnames]
    exact (synth_of_flag hsyn hobj).imp_left haddp
  · exact typeOK_of_flag (fun _ h => (Bool.and_eq_true_iff.mp h).1) hty

/-- the library's reading of the waiver: lenient exactly on the schemas it turns into classes -/
abbrev ℓ₀ : SKw → Bool := typeHasObject

theorem good_mk {cx : PCtx} {k : SKw} {items : List Schema} {addI cont : Option Schema}
    {props pats : List (String × Schema)} {addP pn : Option Schema} {deps : List (Key × Schema)}
    {anyOf oneOf allOf : List Schema} {not : Option Schema}
    (h : (flagsOf cx (.mk k items addI cont props pats addP pn deps anyOf oneOf allOf not)).all = true) :
    (nodeFlags cx k items props pats addP deps anyOf oneOf allOf).all = true ∧
    (flagsList cx items).all = true ∧ (flagsOpt cx addI).all = true ∧ (flagsOpt cx cont).all = true ∧
    (flagsNamed cx props).all = true ∧ (flagsNamed cx pats).all = true ∧ (flagsOpt cx addP).all = true ∧
    (flagsOpt cx pn).all = true ∧ (flagsDeps cx deps).all = true ∧ (flagsList cx anyOf).all = true ∧
    (flagsList cx oneOf).all = true ∧ (flagsList cx allOf).all = true ∧ (flagsOpt cx not).all = true := by
  rw [flagsOf] at h
  simp only [Flags.all_and, Bool.and_eq_true] at h
  exact h

/-- the record `D6.valid` builds in its `.mk` clause, the counterpart of `kidsOf` -/
def ssubOf (env : Env) (items : List Schema) (addI cont : Option Schema) (props pats : List (String × Schema))
    (addP pn : Option Schema) (deps : List (Key × Schema)) (anyOf oneOf allOf : List Schema)
    (not : Option Schema) : D6.SSub :=
  { items := D6.vList env ℓ₀ items, addItems := D6.vOpt env ℓ₀ addI, contains := D6.vOpt env ℓ₀ cont,
    props := D6.vProps env ℓ₀ props, patProps := D6.vNamed env ℓ₀ pats, addProps := D6.vOpt env ℓ₀ addP,
    propNames := D6.vOpt env ℓ₀ pn, deps := D6.vDeps env ℓ₀ deps, anyOf := D6.vList env ℓ₀ anyOf,
    oneOf := D6.vList env ℓ₀ oneOf, allOf := D6.vList env ℓ₀ allOf, not := D6.vOpt env ℓ₀ not }

mutual
theorem parse_ok (env : Env) (cx : PCtx) : ∀ (s : Schema), (flagsOf cx s).all = true →
    ERel env (parseE cx s) (D6.valid env ℓ₀ s)
  | .bool b, _ => by
    rw [parseE, D6.valid]
    cases b
    · exact RC_nothing env
    · exact RC_trivial env
  | .mk k items addI cont props pats addP pn deps anyOf oneOf allOf not, h => by
    obtain ⟨h0, h1, h2, h3, h4, h5, h6, h7, h8, h9, h10, h11, h12⟩ := good_mk h
    rw [parseE, D6.valid]
    have hfaith : ∀ p ∈ props, (parseE cx p.2).kw.default.isSome = declaresDefaultS p.2 := by
      have : defaultFaithful cx props = true := by
        unfold Flags.all nodeFlags at h0
        simp only [Bool.and_eq_true] at h0
        exact h0.2
      unfold defaultFaithful at this
      intro p hp
      simpa using List.all_eq_true.mp this p hp
    have K : KidsRel env (kidsOf cx items addI cont props pats addP pn deps anyOf oneOf allOf not)
        (ssubOf env items addI cont props pats addP pn deps anyOf oneOf allOf not) :=
      { items := parseList_ok env cx items h1
        addItems := parseAddl_ok env cx addI h2
        contains := parseOpt_ok env cx cont h3
        props := parseProps_ok env cx props h4 hfaith
        patProps := parseNamed_ok env cx pats h5
        addProps := parseAddl_ok env cx addP h6
        propNames := parseOpt_ok env cx pn h7
        deps := parseDeps_ok env cx deps h8
        anyOf := parseList_ok env cx anyOf h9
        oneOf := parseList_ok env cx oneOf h10
        allOf := parseList_ok env cx allOf h11
        not := parseOpt_ok env cx not h12 }
    exact RC_assembleK_of_flags K h0 (vList_length env ℓ₀ items) (parseNamed_names cx props) id
      (parseList_isEmpty cx anyOf) (parseList_isEmpty cx oneOf) (parseList_isEmpty cx allOf)
theorem parseOpt_ok (env : Env) (cx : PCtx) : ∀ (o : Option Schema), (flagsOpt cx o).all = true →
    OptRel (ERel env) (parseOpt cx o) (D6.vOpt env ℓ₀ o)
  | none, _ => by rw [parseOpt, D6.vOpt]; exact OptRel.none
  | some s, h => by
    rw [parseOpt, D6.vOpt]
    rw [flagsOpt] at h
    exact OptRel.some (parse_ok env cx s h)
theorem parseAddl_ok (env : Env) (cx : PCtx) : ∀ (o : Option Schema), (flagsOpt cx o).all = true →
    AddlK env (parseAddl cx o) (D6.vOpt env ℓ₀ o)
  | none, _ => by rw [parseAddl, D6.vOpt]; exact AddlK.absent
  | some (.bool b), _ => by
    rw [parseAddl, D6.vOpt, D6.valid]
    exact AddlK.lit b
  | some (.mk k items addI cont props pats addP pn deps anyOf oneOf allOf not), h => by
    rw [parseAddl, D6.vOpt]
    rw [flagsOpt] at h
    exact AddlK.elem (parse_ok env cx _ h)
theorem parseList_ok (env : Env) (cx : PCtx) : ∀ (l : List Schema), (flagsList cx l).all = true →
    All2 (ERel env) (parseList cx l) (D6.vList env ℓ₀ l)
  | [], _ => by rw [parseList, D6.vList]; exact All2.nil
  | s :: ss, h => by
    rw [parseList, D6.vList]
    rw [flagsList, Flags.all_and, Bool.and_eq_true] at h
    exact All2.cons (parse_ok env cx s h.1) (parseList_ok env cx ss h.2)
theorem parseNamed_ok (env : Env) (cx : PCtx) : ∀ (l : List (String × Schema)), (flagsNamed cx l).all = true →
    All2 (fun (a : String × Elem) (b : String × D6.VF) => a.1 = b.1 ∧ ERel env a.2 b.2)
      (parseNamed cx l) (D6.vNamed env ℓ₀ l)
  | [], _ => by rw [parseNamed, D6.vNamed]; exact All2.nil
  | (k, s) :: r, h => by
    rw [parseNamed, D6.vNamed]
    rw [flagsNamed, Flags.all_and, Bool.and_eq_true] at h
    exact All2.cons ⟨rfl, parse_ok env cx s h.1⟩ (parseNamed_ok env cx r h.2)
theorem parseProps_ok (env : Env) (cx : PCtx) : ∀ (l : List (String × Schema)), (flagsNamed cx l).all = true →
    (∀ p ∈ l, (parseE cx p.2).kw.default.isSome = declaresDefaultS p.2) →
    All2 (fun (a : String × Elem) (b : String × Bool × D6.VF) =>
        a.1 = b.1 ∧ ERel env a.2 b.2.2 ∧ b.2.1 = a.2.kw.default.isSome)
      (parseNamed cx l) (D6.vProps env ℓ₀ l)
  | [], _, _ => by rw [parseNamed, D6.vProps]; exact All2.nil
  | (k, s) :: r, h, hf => by
    rw [parseNamed, D6.vProps]
    rw [flagsNamed, Flags.all_and, Bool.and_eq_true] at h
    refine All2.cons ⟨rfl, parse_ok env cx s h.1, ?_⟩
      (parseProps_ok env cx r h.2 fun p hp => hf p (List.mem_cons_of_mem _ hp))
    rw [declaresDefault_eq]
    exact (hf (k, s) (List.mem_cons_self ..)).symm
theorem parseDeps_ok (env : Env) (cx : PCtx) : ∀ (l : List (Key × Schema)), (flagsDeps cx l).all = true →
    All2 (fun (a : Key × Elem) (b : Key × D6.VF) => a.1 = b.1 ∧ ERel env a.2 b.2)
      (parseDeps cx l) (D6.vDeps env ℓ₀ l)
  | [], _ => by rw [parseDeps, D6.vDeps]; exact All2.nil
  | (k, s) :: r, h => by
    rw [parseDeps, D6.vDeps]
    rw [flagsDeps, Flags.all_and, Bool.and_eq_true] at h
    exact All2.cons ⟨rfl, parse_ok env cx s h.1⟩ (parseDeps_ok env cx r h.2)
end

end Statham
