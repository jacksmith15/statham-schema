/-
  Evaluating the printed form of an element tree gives the tree back (lemmas for `Props/C18`).

  One law per keyword (`Row`: what is printed for it evaluates to a value the constructor assigns by a known update),
  one theorem for an arbitrary list of keywords (`evalV_call_rows`), the signatures of the classes put in last (`eval_core`).
-/
import StathamModel.Py.EvalTree
import StathamModel.Lemmas.KwExpr
namespace Statham.PyEval

/-- what the printed dict entry of a property / pattern / dependency evaluates to, before binding (`source` only where it
    differs from the name, as `propExpr` prints it) -/
def propEntry (p : Key × Elem) : String × PyVal :=
  (p.1.name, .prop p.1.required (if p.1.src == p.1.name then none else some p.1.src) p.2)
def patEntry (p : Key × Elem) : String × PyVal := (p.1.name, .elem p.2)
def depEntry (p : Key × Elem) : String × PyVal :=
  (p.1.name, match p.1.names with | some l => .lit (.arr (l.map JVal.str)) | none => .elem p.2)

def evalO (env : String → Option Elem) : Option PyExpr → Option (Option PyVal)
  | none => some none
  | some x => (evalV env x).map some

/-- the rendered sub-elements evaluate to the sub-elements -/
structure EvalKids (env : String → Option Elem) (rk : ReprKids) (t : St) : Prop where
  items : evalVs env rk.items = some (t.items.map PyVal.elem)
  addItems : evalO env rk.addItems = some (t.addItems.map PyVal.elem)
  contains : evalO env rk.contains = some (t.contains.map PyVal.elem)
  props : evalKVs env (rk.props.map fun p => (p.1.name, propExpr p.1 p.2)) = some (t.props.map propEntry)
  patProps : evalKVs env (rk.patProps.map fun p => (p.1.name, p.2)) = some (t.patProps.map patEntry)
  addProps : evalO env rk.addProps = some (t.addProps.map PyVal.elem)
  propNames : evalO env rk.propNames = some (t.propNames.map PyVal.elem)
  deps : evalKVs env (rk.deps.map depExpr) = some (t.deps.map depEntry)
  elements : evalVs env rk.elements = some (t.elements.map PyVal.elem)

theorem allElems_map (l : List Elem) : allElems (l.map PyVal.elem) = some l := by
  induction l with
  | nil => rfl
  | cons a r ih => simp [allElems, ih]

theorem evalV_list (env) (xs : List PyExpr) (es : List Elem) (h : evalVs env xs = some (es.map PyVal.elem)) :
    evalV env (.list xs) = some (.elems es) := by
  rw [evalV, h]; simp [allElems_map]

theorem evalV_dict (env) (kvs : List (String × PyExpr)) (vs : List (String × PyVal)) (h : evalKVs env kvs = some vs) :
    evalV env (.dict kvs) = (toEntries vs).map PyVal.entries := by
  rw [evalV, h]

theorem evalVs_cons {env} {x : PyExpr} {r : List PyExpr} {l : List PyVal} (h : evalVs env (x :: r) = some l) :
    ∃ v vs, evalV env x = some v ∧ evalVs env r = some vs ∧ l = v :: vs := by
  rw [evalVs] at h
  cases hx : evalV env x <;> cases hr : evalVs env r <;> simp_all

theorem evalKVs_cons {env} {n : String} {x : PyExpr} {r : List (String × PyExpr)} {l : List (String × PyVal)}
    (h : evalKVs env ((n, x) :: r) = some l) : ∃ v vs, evalV env x = some v ∧ evalKVs env r = some vs ∧ l = (n, v) :: vs := by
  rw [evalKVs] at h
  cases hx : evalV env x <;> cases hr : evalKVs env r <;> simp_all

theorem evalVs_head (env) (xs : List PyExpr) (es : List Elem) (h : evalVs env xs = some (es.map PyVal.elem)) :
    evalO env xs.head? = some (es.head?.map PyVal.elem) := by
  cases xs with
  | nil =>
    cases es with
    | nil => rfl
    | cons e r => cases h
  | cons x r =>
    obtain ⟨v, vs, hv, _, hl⟩ := evalVs_cons h
    cases es with
    | nil => cases hl
    | cons e r' => cases hl; simp [evalO, hv]

/-- a bound property: `source` is set (binding fills it in with the attribute name), and it carries no `names` -/
def BoundKey (k : Key) : Prop := k.source = some k.src ∧ k.names = none
/-- `PatKey`, `DepOK`: exactly the keys `bindPat` / `bindDep` build: the name only, or, for the array form of a dependency,
    the name and the names with `Elem.trivial` in the element slot -/
def PatKey (k : Key) : Prop := k = { name := k.name }
def DepOK (p : Key × Elem) : Prop :=
  p.1 = { name := p.1.name } ∨ ∃ l, p.1 = { name := p.1.name, names := some l } ∧ p.2 = Elem.trivial

theorem name_empty_of_src_empty (k : Key) (h : k.src = "") : k.name = "" := by
  unfold Key.src at h
  cases hs : k.source with
  | none => simpa [hs] using h
  | some s =>
    simp only [hs] at h
    by_cases he : s = ""
    · simpa [he] using h
    · simp [he] at h

theorem boundSource_key (k : Key) :
    boundSource k.name (if (k.src == k.name) = true then none else some k.src) = k.src := by
  by_cases hq : k.src = k.name
  · simp [hq, boundSource]
  · have hne : k.src ≠ "" := fun h0 => hq (by rw [h0, name_empty_of_src_empty k h0])
    simp [hq, boundSource, hne]

/-- a printed dictionary is read back entry by entry: `toEntries` on the values, then `bindAll f` under the keys -/
theorem bindAll_toEntries (f : String → Entry → Option (Key × Elem)) (g : Key × Elem → String × PyVal) :
    ∀ (l : List (Key × Elem)), (∀ p ∈ l, ∃ en, toEntry (g p).2 = some en ∧ f (g p).1 en = some p) →
      ∃ ents, toEntries (l.map g) = some ents ∧ bindAll f ents = some l
  | [], _ => ⟨[], rfl, rfl⟩
  | p :: r, h => by
    obtain ⟨en, h1, h2⟩ := h p (List.mem_cons_self ..)
    obtain ⟨ents, h3, h4⟩ := bindAll_toEntries f g r fun q hq => h q (List.mem_cons_of_mem _ hq)
    refine ⟨((g p).1, en) :: ents, ?_, by simp only [bindAll, h2, h4]⟩
    rw [List.map_cons, show g p = ((g p).1, (g p).2) from rfl, toEntries, h1, h3]

theorem BoundKey.eq {k : Key} (h : BoundKey k) :
    ({ name := k.name, required := k.required, source := some k.src } : Key) = k := by
  obtain ⟨hs, hn⟩ := h
  cases k with
  | mk name required source names =>
    simp only [Key.mk.injEq, true_and]
    exact ⟨hs.symm, hn.symm⟩

theorem bind_propEntry (p : Key × Elem) (h : BoundKey p.1) :
    ∃ en, toEntry (propEntry p).2 = some en ∧ bindProp (propEntry p).1 en = some p := by
  refine ⟨_, rfl, ?_⟩
  simp only [propEntry, bindProp, boundSource_key, h.eq]

theorem bind_patEntry (p : Key × Elem) (h : PatKey p.1) :
    ∃ en, toEntry (patEntry p).2 = some en ∧ bindPat (patEntry p).1 en = some p := by
  obtain ⟨k, e⟩ := p
  refine ⟨_, rfl, ?_⟩
  unfold PatKey at h
  simp only [patEntry, bindPat]
  rw [← h]

theorem bind_depEntry (p : Key × Elem) (h : DepOK p) :
    ∃ en, toEntry (depEntry p).2 = some en ∧ bindDep (depEntry p).1 en = some p := by
  obtain ⟨k, e⟩ := p
  rcases h with h | ⟨l, h, he⟩
  · simp only at h
    have hn : k.names = none := by rw [h]
    refine ⟨.elem e, by simp only [depEntry, hn, toEntry], ?_⟩
    simp only [depEntry, bindDep]
    rw [← h]
  · simp only at h he
    have hn : k.names = some l := by rw [h]
    refine ⟨.names l, by simp only [depEntry, hn, toEntry, decodeStrs_map, Option.map_some], ?_⟩
    simp only [depEntry, bindDep]
    rw [← h, he]

/-- what a generic `Element(...)` must satisfy for its printed form to determine it -/
structure ElementOK (t : St) : Prop where
  single : t.kw.itemsKind = .single → ∃ x, t.items = [x]
  noItems : t.kw.itemsKind = .none → t.items = []
  addItems : t.addItems.isSome = true → t.kw.addItemsB = true
  addProps : t.addProps.isSome = true → t.kw.addPropsB = true
  noProps : t.kw.hasProps = false → t.props = []
  noPats : t.kw.hasPatProps = false → t.patProps = []
  noDeps : t.kw.hasDeps = false → t.deps = []
  propKeys : ∀ p ∈ t.props, BoundKey p.1
  patKeys : ∀ p ∈ t.patProps, PatKey p.1
  depKeys : ∀ p ∈ t.deps, DepOK p
  noElements : t.elements = []

structure ArrayOK (t : St) : Prop where
  single : t.kw.itemsKind = .single → ∃ x, t.items = [x]
  noItems : t.kw.itemsKind = .none → t.items = []
  addItems : t.addItems.isSome = true → t.kw.addItemsB = true
  shape : t = { kw := { default := t.kw.default, const := t.kw.const, enum := t.kw.enum, itemsKind := t.kw.itemsKind,
                        addItemsB := t.kw.addItemsB, minItems := t.kw.minItems, maxItems := t.kw.maxItems,
                        uniqueItems := t.kw.uniqueItems, description := t.kw.description },
                items := t.items, addItems := t.addItems, contains := t.contains }

/-- the element holds nothing but what its class's constructor takes, in the one form the constructor produces.  An object
    class prints as its bare name, so nothing is asked of its content here; `ClassOK` asks it for class statements. -/
def NodeOK (c : Cls) (t : St) : Prop :=
  match c with
  | .element => ElementOK t
  | .string => t = { kw := { default := t.kw.default, const := t.kw.const, enum := t.kw.enum, format := t.kw.format,
                             pattern := t.kw.pattern, minLength := t.kw.minLength, maxLength := t.kw.maxLength,
                             description := t.kw.description } }
  | .integer => t = { kw := { default := t.kw.default, const := t.kw.const, enum := t.kw.enum, minimum := t.kw.minimum,
                              maximum := t.kw.maximum, exclusiveMinimum := t.kw.exclusiveMinimum,
                              exclusiveMaximum := t.kw.exclusiveMaximum, multipleOf := t.kw.multipleOf,
                              description := t.kw.description } }
  | .number => t = { kw := { default := t.kw.default, const := t.kw.const, enum := t.kw.enum, minimum := t.kw.minimum,
                             maximum := t.kw.maximum, exclusiveMinimum := t.kw.exclusiveMinimum,
                             exclusiveMaximum := t.kw.exclusiveMaximum, multipleOf := t.kw.multipleOf,
                             description := t.kw.description } }
  | .boolean => t = { kw := { default := t.kw.default, const := t.kw.const, enum := t.kw.enum, description := t.kw.description } }
  | .null => t = { kw := { default := t.kw.default, const := t.kw.const, enum := t.kw.enum, description := t.kw.description } }
  | .nothing => t = {}
  | .not => (∃ e, t.elements = [e]) ∧ t = { kw := { default := t.kw.default }, elements := t.elements }
  | .anyOf => t = { kw := { default := t.kw.default }, elements := t.elements }
  | .oneOf => t = { kw := { default := t.kw.default }, elements := t.elements }
  | .allOf => t = { kw := { default := t.kw.default }, elements := t.elements }
  | .array => ArrayOK t
  | .object _ => True

def kwNames (sig : List Gen.Param) : List String := (sig.filter fun p => p.kind == .keywordOnly).map (·.name)

theorem kwargsOf_eq (sig : List Gen.Param) (kw : Kw) (k : ReprKids) :
    kwargsOf sig kw k = (kwNames sig).filterMap fun n => (kwExpr kw k n).map fun x => (n, x) := by
  rw [kwargsOf, kwNames, List.filterMap_map]; rfl

theorem accepts_of_names (sig : List Gen.Param) (kvs : List (String × PyVal)) (h : ∀ a ∈ kvs, a.1 ∈ kwNames sig) :
    accepts sig kvs = true := by
  rw [accepts, List.all_eq_true]
  intro a ha
  obtain ⟨p, hp, hn⟩ := List.mem_map.mp (h a ha)
  obtain ⟨hp1, hp2⟩ := List.mem_filter.mp hp
  exact List.any_eq_true.mpr ⟨p, hp1, by simp [hn, hp2]⟩

/-- Keyword `name` of the state `t` being printed: nothing printed means nothing to assign; what is printed evaluates
    to a value that the constructor assigns by `upd`. -/
def Row (env : String → Option Elem) (rk : ReprKids) (t : St) (name : String) (upd : St → St) : Prop :=
  ∀ s, (kwExpr t.kw rk name = none → upd s = s) ∧
    ∀ x, kwExpr t.kw rk name = some x → ∃ v, evalV env x = some v ∧ setArg s name v = some (upd s)

structure KwRow (env : String → Option Elem) (rk : ReprKids) (t : St) where
  name : String
  upd : St → St
  ok : Row env rk t name upd

theorem applyVals_rows {env : String → Option Elem} {rk : ReprKids} {t : St} : ∀ (rows : List (KwRow env rk t)) (s : St),
    ∃ kvs, evalKVs env ((rows.map (·.name)).filterMap fun n => (kwExpr t.kw rk n).map fun x => (n, x)) = some kvs ∧
      (∀ a ∈ kvs, a.1 ∈ rows.map (·.name)) ∧ applyVals s kvs = some (rows.foldl (fun s r => r.upd s) s)
  | [], s => ⟨[], rfl, nofun, rfl⟩
  | r :: rows, s => by
    obtain ⟨h0, h1⟩ := r.ok s
    obtain ⟨kvs, hk, hn, ha⟩ := applyVals_rows rows (r.upd s)
    rw [List.map_cons, List.filterMap_cons]
    cases hx : kwExpr t.kw rk r.name with
    | none =>
      rw [h0 hx] at ha
      exact ⟨kvs, hk, fun a ha' => List.mem_cons_of_mem _ (hn a ha'), by rw [List.foldl_cons, h0 hx]; exact ha⟩
    | some x =>
      obtain ⟨v, hv, hs⟩ := h1 x hx
      refine ⟨(r.name, v) :: kvs, by simp only [Option.map_some, evalKVs, hv, hk], ?_,
        by simp only [applyVals, hs, List.foldl_cons, ha]⟩
      intro a ha'
      rcases List.mem_cons.mp ha' with rfl | ha'
      · exact List.mem_cons_self ..
      · exact List.mem_cons_of_mem _ (hn a ha')

theorem classOf_pyClassName (c : Cls) (hc : ∀ n, c ≠ .object n) :
    pyClassName c ≠ "Property" ∧ classOf (pyClassName c) = some c := by
  cases c
  case object n => exact absurd rfl (hc n)
  all_goals exact ⟨by simp [pyClassName], by rw [pyClassName, classOf]⟩

theorem evalV_call_rows {env : String → Option Elem} {rk : ReprKids} {t : St} (c : Cls) (hc : ∀ n, c ≠ .object n)
    (args : List PyExpr) (avals : List PyVal) (s0 : St) (hargs : evalVs env args = some avals)
    (hpos : positional c avals = some s0) (rows : List (KwRow env rk t)) (hnames : rows.map (·.name) = kwNames (sigOf c))
    (hfold : rows.foldl (fun s r => r.upd s) s0 = t) :
    evalV env (.call (pyClassName c) args (kwargsOf (sigOf c) t.kw rk)) = some (.elem (t.toElem c)) := by
  obtain ⟨kvs, hk, hn, ha⟩ := applyVals_rows rows s0
  obtain ⟨hf, hcls⟩ := classOf_pyClassName c hc
  rw [hnames] at hk hn
  rw [evalV, hargs, kwargsOf_eq, hk]
  simp only [pyConstruct, hf, if_false, hcls, accepts_of_names _ _ hn, if_true, hpos, ha, hfold, Option.map_some]

/-- `o` where present, else `x`.  It matches on `x` first so that `fill o none` reduces to `o`: the updates below, run from the
    empty state, then give the printed state back without a case split on what was passed (flags likewise: `s.b || t.b`,
    `s.b && t.b` reduce for the `s` of the empty state). -/
def fill {α} (o x : Option α) : Option α :=
  match x, o with
  | none, o => o
  | some b, none => some b
  | some _, some a => some a

theorem fill_none {α} (x : Option α) : fill none x = x := by cases x <;> rfl
theorem fill_some {α} (a : α) (x : Option α) : fill (some a) x = some a := by cases x <;> rfl

theorem setArg_lit (s : St) (n : String) (v : JVal) :
    setArg s n (.lit v) = (setLit s.kw n (.lit v)).map fun kw => { s with kw := kw } := by rw [setArg]

variable {env : String → Option Elem} {rk : ReprKids} {t : St} {name : String}

theorem evalV_of_evalO {x : PyExpr} {o : Option Elem} (h : evalO env (some x) = some (o.map .elem)) :
    ∃ e, o = some e ∧ evalV env x = some (.elem e) := by
  rw [evalO, Option.map_eq_some_iff] at h
  obtain ⟨v, hv, h⟩ := h
  cases o with
  | none => cases h
  | some e => cases h; exact ⟨e, rfl, hv⟩

/-- the law at one state when nothing is printed -/
theorem row_none {s s' : St} (h : s' = s) :
    ((none : Option PyExpr) = none → s' = s) ∧
      ∀ x, (none : Option PyExpr) = some x → ∃ v, evalV env x = some v ∧ setArg s name v = some s' :=
  ⟨fun _ => h, nofun⟩

/-- the law at one state when `x` is printed -/
theorem row_some {s s' : St} {x : PyExpr} {v : PyVal} (hv : evalV env x = some v) (hs : setArg s name v = some s') :
    (some x = none → s' = s) ∧ ∀ y, some x = some y → ∃ v, evalV env y = some v ∧ setArg s name v = some s' :=
  ⟨nofun, fun y hy => by cases hy; exact ⟨v, hv, hs⟩⟩

/-- the side conditions default to the tactic that proves them for every literal keyword; only `kRequired` overrides `hs` -/
theorem row_lit {α} (get : Kw → Option α) (set : Kw → Option α → Kw) (pr : α → PyExpr) (mk : α → JVal)
    (hp : kwExpr t.kw rk name = (get t.kw).map pr := by rw [kwExpr])
    (hv : ∀ a, evalV env (pr a) = some (.lit (mk a)) := by intros; rfl)
    (hs : ∀ k a, setLit k name (.lit (mk a)) = some (set k (some a)) := by intros; rw [setLit])
    (h0 : ∀ k, set k (get k) = k := by intros; rfl) :
    Row env rk t name fun s => { s with kw := set s.kw (fill (get t.kw) (get s.kw)) } := by
  intro s
  rw [hp]
  dsimp only
  cases get t.kw with
  | none => exact row_none (by rw [fill_none, h0])
  | some a => exact row_some (hv a) (by rw [setArg_lit, hs, fill_some]; rfl)

theorem row_uniqueItems :
    Row env rk t "uniqueItems" fun s => { s with kw := { s.kw with uniqueItems := s.kw.uniqueItems || t.kw.uniqueItems } } := by
  intro s
  rw [kwExpr]
  dsimp only
  cases t.kw.uniqueItems with
  | false => exact row_none (by rw [Bool.or_false])
  | true => exact row_some (v := .lit (.bool true)) rfl (by rw [setArg_lit, setLit, Bool.or_true]; rfl)

theorem row_elem (x : Option PyExpr) (e : Option Elem) (get : St → Option Elem) (set : St → Option Elem → St)
    (hx : evalO env x = some (e.map .elem)) (hp : kwExpr t.kw rk name = x)
    (hs : ∀ s e, setArg s name (.elem e) = some (set s (some e)) := by intros; rw [setArg])
    (h0 : ∀ s, set s (get s) = s := by intros; rfl) :
    Row env rk t name fun s => set s (fill e (get s)) := by
  intro s
  rw [hp]
  dsimp only
  cases x with
  | none =>
    cases e with
    | none => exact row_none (by rw [fill_none, h0])
    | some e => cases hx
  | some x =>
    obtain ⟨e, rfl, hv⟩ := evalV_of_evalO hx
    exact row_some hv (by rw [hs, fill_some])

/-- `additionalItems` / `additionalProperties`: a sub-element, or `False`.  The constructor leaves the flag alone when it is
    given an element, hence `hcan`. -/
theorem row_addl (x : Option PyExpr) (e : Option Elem) (b : Bool) (getE : St → Option Elem) (setE : St → Option Elem → St)
    (getB : Kw → Bool) (setB : Kw → Bool → Kw)
    (hp : kwExpr t.kw rk name = match x with
      | some y => some y
      | none => if b then none else some (.lit (.bool false)))
    (hx : evalO env x = some (e.map .elem)) (hcan : e.isSome = true → b = true)
    (hs : ∀ s e, setArg s name (.elem e) = some (setE s (some e)) := by intros; rw [setArg])
    (hl : ∀ k, setLit k name (.lit (.bool false)) = some (setB k false) := by intros; rw [setLit])
    (h0 : ∀ s, setE s (getE s) = s := by intros; rfl) (h1 : ∀ k, setB k (getB k) = k := by intros; rfl)
    (hkw : ∀ s o, (setE s o).kw = s.kw := by intros; rfl) :
    Row env rk t name fun s => { setE s (fill e (getE s)) with kw := setB s.kw (getB s.kw && b) } := by
  intro s
  rw [hp]
  dsimp only
  cases x with
  | some x =>
    obtain ⟨e, rfl, hv⟩ := evalV_of_evalO hx
    exact row_some hv (by rw [hs, fill_some, hcan rfl, Bool.and_true, h1, ← hkw s (some e)])
  | none =>
    cases e with
    | some e => cases hx
    | none =>
      cases b with
      | true => exact row_none (by rw [fill_none, h0, Bool.and_true, h1])
      | false => exact row_some (v := .lit (.bool false)) rfl (by rw [setArg_lit, hl, fill_none, h0, Bool.and_false]; rfl)

theorem row_dict (b : Bool) (kvs : List (String × PyExpr)) (vals : List (String × PyVal)) (l : List (Key × Elem))
    (f : String → Entry → Option (Key × Elem)) (getB : St → Bool) (getL : St → List (Key × Elem))
    (set : St → Bool → List (Key × Elem) → St)
    (hp : kwExpr t.kw rk name = if b then some (.dict kvs) else none)
    (hk : evalKVs env kvs = some vals) (hb : ∃ ents, toEntries vals = some ents ∧ bindAll f ents = some l)
    (hs : ∀ s kvs, setArg s name (.entries kvs) = (bindAll f kvs).map fun ps => set s true ps := by intros; rw [setArg])
    (h0 : ∀ s, set s (getB s) (getL s) = s := by intros; rfl) :
    Row env rk t name fun s => set s (getB s || b) (if b then l else getL s) := by
  intro s
  rw [hp]
  dsimp only
  cases b with
  | false => exact row_none (by rw [Bool.or_false]; exact h0 s)
  | true =>
    obtain ⟨ents, hto, hb⟩ := hb
    exact row_some (v := .entries ents) (by rw [evalV_dict env _ _ hk, hto]; rfl) (by rw [hs, hb, Bool.or_true]; rfl)

/-! `abbrev`, so that `simp only [List.foldl]` sees the updates of a list of rows. -/

abbrev kDefault : KwRow env rk t :=
  ⟨"default", _, row_lit (·.default) (fun k o => { k with default := o }) PyExpr.lit (fun v => v)⟩

abbrev kConst : KwRow env rk t :=
  ⟨"const", _, row_lit (·.const) (fun k o => { k with const := o }) PyExpr.lit (fun v => v)⟩

abbrev kEnum : KwRow env rk t :=
  ⟨"enum", _, row_lit (·.enum) (fun k o => { k with enum := o }) (fun l => .lit (.arr l)) JVal.arr⟩

/-- `a` when `items` was passed (`k ≠ .none`), else `b` -/
def pick {α} (k : ItemsKind) (a b : α) : α :=
  match k with
  | .none => b
  | _ => a

theorem pick_self (k : ItemsKind) : pick k k .none = k := by cases k <;> rfl
theorem pick_nil {α} {k : ItemsKind} {l : List α} (h : k = .none → l = []) : pick k l [] = l := by
  cases k
  · exact (h rfl).symm
  · rfl
  · rfl

/-- the update for `items`; from the empty state, also what `Array`'s positional argument leaves -/
def uItems (t s : St) : St :=
  { s with kw := { s.kw with itemsKind := pick t.kw.itemsKind t.kw.itemsKind s.kw.itemsKind },
           items := pick t.kw.itemsKind t.items s.items }
theorem row_items (hk : EvalKids env rk t) (h : t.kw.itemsKind = .single → ∃ x, t.items = [x]) :
    Row env rk t "items" (uItems t) := by
  intro s
  rw [kwExpr, uItems]
  cases hi : t.kw.itemsKind with
  | none => exact row_none rfl
  | single =>
    obtain ⟨e, he⟩ := h hi
    have hv := evalVs_head env _ _ hk.items
    rw [he] at hv ⊢
    dsimp only
    cases hx : rk.items.head? with
    | none => rw [hx] at hv; cases hv
    | some x =>
      rw [hx] at hv
      obtain ⟨_, he', hv⟩ := evalV_of_evalO (o := some e) hv
      cases he'
      exact row_some hv (by rw [setArg]; rfl)
  | tuple => exact row_some (evalV_list env _ _ hk.items) (by rw [setArg]; rfl)

abbrev kItems (hk : EvalKids env rk t) (h : t.kw.itemsKind = .single → ∃ x, t.items = [x]) : KwRow env rk t :=
  ⟨"items", _, row_items hk h⟩

abbrev kAdditionalItems (hk : EvalKids env rk t) (h : t.addItems.isSome = true → t.kw.addItemsB = true) : KwRow env rk t :=
  ⟨"additionalItems", _, row_addl rk.addItems t.addItems t.kw.addItemsB (·.addItems) (fun s o => { s with addItems := o })
    (·.addItemsB) (fun k b => { k with addItemsB := b }) (by rw [kwExpr]; rfl) hk.addItems h⟩

abbrev kMinItems : KwRow env rk t :=
  ⟨"minItems", _, row_lit (·.minItems) (fun k o => { k with minItems := o }) numE JVal.num⟩

abbrev kMaxItems : KwRow env rk t :=
  ⟨"maxItems", _, row_lit (·.maxItems) (fun k o => { k with maxItems := o }) numE JVal.num⟩

abbrev kUniqueItems : KwRow env rk t := ⟨"uniqueItems", _, row_uniqueItems⟩

abbrev kContains (hk : EvalKids env rk t) : KwRow env rk t :=
  ⟨"contains", _, row_elem rk.contains t.contains (·.contains) (fun s o => { s with contains := o }) hk.contains (by rw [kwExpr])⟩

abbrev kMinimum : KwRow env rk t :=
  ⟨"minimum", _, row_lit (·.minimum) (fun k o => { k with minimum := o }) numE JVal.num⟩

abbrev kMaximum : KwRow env rk t :=
  ⟨"maximum", _, row_lit (·.maximum) (fun k o => { k with maximum := o }) numE JVal.num⟩

abbrev kExclusiveMinimum : KwRow env rk t :=
  ⟨"exclusiveMinimum", _, row_lit (·.exclusiveMinimum) (fun k o => { k with exclusiveMinimum := o }) numE JVal.num⟩

abbrev kExclusiveMaximum : KwRow env rk t :=
  ⟨"exclusiveMaximum", _, row_lit (·.exclusiveMaximum) (fun k o => { k with exclusiveMaximum := o }) numE JVal.num⟩

abbrev kMultipleOf : KwRow env rk t :=
  ⟨"multipleOf", _, row_lit (·.multipleOf) (fun k o => { k with multipleOf := o }) numE JVal.num⟩

abbrev kFormat : KwRow env rk t :=
  ⟨"format", _, row_lit (·.format) (fun k o => { k with format := o }) (fun s => .lit (.str s)) JVal.str⟩

abbrev kPattern : KwRow env rk t :=
  ⟨"pattern", _, row_lit (·.pattern) (fun k o => { k with pattern := o }) (fun s => .lit (.str s)) JVal.str⟩

abbrev kMinLength : KwRow env rk t :=
  ⟨"minLength", _, row_lit (·.minLength) (fun k o => { k with minLength := o }) numE JVal.num⟩

abbrev kMaxLength : KwRow env rk t :=
  ⟨"maxLength", _, row_lit (·.maxLength) (fun k o => { k with maxLength := o }) numE JVal.num⟩

abbrev kRequired : KwRow env rk t :=
  ⟨"required", _, row_lit (·.required) (fun k o => { k with required := o }) (fun l => .lit (.arr (l.map .str)))
    (fun l => .arr (l.map .str)) (hs := fun _ _ => by rw [setLit, decodeStrs_map]; rfl)⟩

abbrev kProperties (hk : EvalKids env rk t) (h : ∀ p ∈ t.props, BoundKey p.1) : KwRow env rk t :=
  ⟨"properties", _, row_dict t.kw.hasProps _ _ t.props bindProp (·.kw.hasProps) (·.props)
    (fun s b ps => { s with kw := { s.kw with hasProps := b }, props := ps }) (by rw [kwExpr]) hk.props
    (bindAll_toEntries _ _ _ fun p hp => bind_propEntry p (h p hp))⟩

abbrev kPatternProperties (hk : EvalKids env rk t) (h : ∀ p ∈ t.patProps, PatKey p.1) : KwRow env rk t :=
  ⟨"patternProperties", _, row_dict t.kw.hasPatProps _ _ t.patProps bindPat (·.kw.hasPatProps) (·.patProps)
    (fun s b ps => { s with kw := { s.kw with hasPatProps := b }, patProps := ps }) (by rw [kwExpr]) hk.patProps
    (bindAll_toEntries _ _ _ fun p hp => bind_patEntry p (h p hp))⟩

abbrev kAdditionalProperties (hk : EvalKids env rk t) (h : t.addProps.isSome = true → t.kw.addPropsB = true) : KwRow env rk t :=
  ⟨"additionalProperties", _, row_addl rk.addProps t.addProps t.kw.addPropsB (·.addProps) (fun s o => { s with addProps := o })
    (·.addPropsB) (fun k b => { k with addPropsB := b }) (by rw [kwExpr]; rfl) hk.addProps h⟩

abbrev kMinProperties : KwRow env rk t :=
  ⟨"minProperties", _, row_lit (·.minProperties) (fun k o => { k with minProperties := o }) numE JVal.num⟩

abbrev kMaxProperties : KwRow env rk t :=
  ⟨"maxProperties", _, row_lit (·.maxProperties) (fun k o => { k with maxProperties := o }) numE JVal.num⟩

abbrev kPropertyNames (hk : EvalKids env rk t) : KwRow env rk t :=
  ⟨"propertyNames", _, row_elem rk.propNames t.propNames (·.propNames) (fun s o => { s with propNames := o }) hk.propNames
    (by rw [kwExpr])⟩

abbrev kDependencies (hk : EvalKids env rk t) (h : ∀ p ∈ t.deps, DepOK p) : KwRow env rk t :=
  ⟨"dependencies", _, row_dict t.kw.hasDeps _ _ t.deps bindDep (·.kw.hasDeps) (·.deps)
    (fun s b ps => { s with kw := { s.kw with hasDeps := b }, deps := ps }) (by rw [kwExpr]; rfl) hk.deps
    (bindAll_toEntries _ _ _ fun p hp => bind_depEntry p (h p hp))⟩

abbrev kDescription : KwRow env rk t :=
  ⟨"description", _, row_lit (·.description) (fun k o => { k with description := o }) (fun s => .lit (.str s)) JVal.str⟩

theorem ite_nil {α} {b : Bool} {l : List α} (h : b = false → l = []) : (if b then l else []) = l := by
  cases b
  · exact (h rfl).symm
  · rfl

abbrev rowsElement (hk : EvalKids env rk t) (ok : ElementOK t) : List (KwRow env rk t) :=
  [kDefault, kConst, kEnum, kItems hk ok.single, kAdditionalItems hk ok.addItems, kMinItems, kMaxItems, kUniqueItems,
   kContains hk, kMinimum, kMaximum, kExclusiveMinimum, kExclusiveMaximum, kMultipleOf, kFormat, kPattern, kMinLength,
   kMaxLength, kRequired, kProperties hk ok.propKeys, kPatternProperties hk ok.patKeys,
   kAdditionalProperties hk ok.addProps, kMinProperties, kMaxProperties, kPropertyNames hk,
   kDependencies hk ok.depKeys, kDescription]

theorem fold_element (hk : EvalKids env rk t) (ok : ElementOK t) :
    (rowsElement hk ok).foldl (fun s r => r.upd s) {} = t := by
  simp only [List.foldl, fill, uItems, Bool.false_or, Bool.true_and, pick_self, pick_nil ok.noItems, ite_nil ok.noProps,
    ite_nil ok.noPats, ite_nil ok.noDeps]
  exact (congrArg (fun l => { t with elements := l }) ok.noElements).symm

abbrev rowsString : List (KwRow env rk t) := [kDefault, kConst, kEnum, kFormat, kPattern, kMinLength, kMaxLength, kDescription]
abbrev rowsNumeric : List (KwRow env rk t) :=
  [kDefault, kConst, kEnum, kMinimum, kMaximum, kExclusiveMinimum, kExclusiveMaximum, kMultipleOf, kDescription]
abbrev rowsBasic : List (KwRow env rk t) := [kDefault, kConst, kEnum, kDescription]
abbrev rowsArray (hk : EvalKids env rk t) (ok : ArrayOK t) : List (KwRow env rk t) :=
  [kDefault, kConst, kEnum, kAdditionalItems hk ok.addItems, kMinItems, kMaxItems, kUniqueItems, kContains hk, kDescription]

theorem evalVs_take_one {xs : List PyExpr} {e : Elem} (h : evalVs env xs = some [.elem e]) :
    evalVs env (xs.take 1) = some [.elem e] := by
  cases xs with
  | nil => cases h
  | cons x r =>
    obtain ⟨v, vs, hv, _, hl⟩ := evalVs_cons h
    cases hl
    simp [evalVs, hv]

theorem array_args (hk : EvalKids env rk t) (h : t.kw.itemsKind = .single → ∃ x, t.items = [x]) :
    ∃ v, evalVs env [(kwExpr t.kw rk "items").getD (.name "NotPassed")] = some [v] ∧
      positional .array [v] = some (uItems t {}) := by
  obtain ⟨h0, h1⟩ := row_items hk h {}
  cases hx : kwExpr t.kw rk "items" with
  | none => exact ⟨.notPassed, rfl, by rw [h0 hx]; rfl⟩
  | some x =>
    obtain ⟨v, hv, hs⟩ := h1 x hx
    exact ⟨v, by simp only [Option.getD_some, evalVs, hv], hs⟩

theorem eval_core (env) (c : Cls) (t : St) (rk : ReprKids) (hc : ∀ n, c ≠ .object n) (hk : EvalKids env rk t)
    (ok : NodeOK c t) : evalV env (reprCore c t.kw rk) = some (.elem (t.toElem c)) := by
  cases c with
  | object n => exact absurd rfl (hc n)
  | element => exact evalV_call_rows _ hc [] [] {} rfl rfl (rowsElement hk ok) rfl (fold_element hk ok)
  | string =>
    exact evalV_call_rows _ hc [] [] {} rfl rfl rowsString rfl (Eq.trans (by simp only [List.foldl, fill]) (Eq.symm ok))
  | integer | number =>
    exact evalV_call_rows _ hc [] [] {} rfl rfl rowsNumeric rfl (Eq.trans (by simp only [List.foldl, fill]) (Eq.symm ok))
  | boolean | null =>
    exact evalV_call_rows _ hc [] [] {} rfl rfl rowsBasic rfl (Eq.trans (by simp only [List.foldl, fill]) (Eq.symm ok))
  | nothing => exact evalV_call_rows _ hc [] [] {} rfl rfl [] rfl (Eq.symm ok)
  | not =>
    obtain ⟨⟨e, he⟩, ok⟩ := ok
    have hel := hk.elements
    rw [he] at hel
    exact evalV_call_rows _ hc _ _ { elements := [e] } (evalVs_take_one hel) rfl [kDefault] rfl
      (Eq.trans (by simp only [List.foldl, fill, he]) (Eq.symm ok))
  | anyOf | oneOf | allOf =>
    exact evalV_call_rows _ hc _ _ { elements := t.elements } hk.elements (by simp [positional, allElems_map]) [kDefault] rfl
      (Eq.trans (by simp only [List.foldl, fill]) (Eq.symm ok))
  | array =>
    have ok : ArrayOK t := ok
    obtain ⟨v, hv, hpos⟩ := array_args hk ok.single
    exact evalV_call_rows _ hc _ _ _ hv hpos (rowsArray hk ok) rfl
      (Eq.trans (by simp only [List.foldl, fill, uItems, pick_self, pick_nil ok.noItems, Bool.false_or, Bool.true_and])
        (Eq.symm ok.shape))

mutual
/-- `n ≠ "NotPassed"`: `evalV` reads that name as the marker before it asks `env`.  `env n` has to be this very node, so two
    classes of one name in a tree are the same class. -/
def WF (env : String → Option Elem) : Elem → Prop
  | .mk c kw items addI cont props pats addP pn deps els =>
    (∀ n, c = .object n → n ≠ "NotPassed" ∧ env n = some (.mk c kw items addI cont props pats addP pn deps els)) ∧
    ((∀ n, c ≠ .object n) → NodeOK c ⟨kw, items, addI, cont, props, pats, addP, pn, deps, els⟩) ∧
    WFL env items ∧ WFO env addI ∧ WFO env cont ∧ WFK env props ∧ WFK env pats ∧ WFO env addP ∧ WFO env pn ∧
    WFD env deps ∧ WFL env els
def WFO (env : String → Option Elem) : Option Elem → Prop
  | none => True
  | some e => WF env e
def WFL (env : String → Option Elem) : List Elem → Prop
  | [] => True
  | e :: r => WF env e ∧ WFL env r
def WFK (env : String → Option Elem) : List (Key × Elem) → Prop
  | [] => True
  | (_, e) :: r => WF env e ∧ WFK env r
/-- `dependencies`: only the element-valued entries hold an element -/
def WFD (env : String → Option Elem) : List (Key × Elem) → Prop
  | [] => True
  | (k, e) :: r => (k.names.isSome = true ∨ WF env e) ∧ WFD env r
end

theorem evalV_call (env) (f : String) (args : List PyExpr) (kwargs : List (String × PyExpr)) (a : List PyVal)
    (k : List (String × PyVal)) (ha : evalVs env args = some a) (hk : evalKVs env kwargs = some k) :
    evalV env (.call f args kwargs) = pyConstruct f a k := by
  rw [evalV, ha, hk]

theorem evalV_propExpr (env) (k : Key) (x : PyExpr) (e : Elem) (h : evalV env x = some (.elem e)) :
    evalV env (propExpr k x) = some (propEntry (k, e)).2 := by
  unfold propExpr
  have ha : evalVs env [x] = some [PyVal.elem e] := by simp [evalVs, h]
  -- `required` printed or not, `source` printed or not: each of the four argument lists is an arm of `propOf`
  by_cases hr : k.required = true <;> by_cases hs : (k.src == k.name) = true
  all_goals
    rw [evalV_call env _ _ _ _ _ ha (by simp [hr, hs, evalKVs, evalV]; rfl)]
    simp [pyConstruct, propOf, propEntry, hr, hs]

mutual
theorem eval_repr (env) : ∀ (e : Elem), WF env e → evalV env (reprExpr e) = some (.elem e)
  | .mk c kw items addI cont props pats addP pn deps els, h => by
    rw [WF] at h
    obtain ⟨hobj, hnode, hi, ha, hc, hp, hpt, hap, hpn, hd, he⟩ := h
    rw [reprExpr]
    by_cases hc' : ∃ n, c = .object n
    · obtain ⟨n, rfl⟩ := hc'
      obtain ⟨hn, henv⟩ := hobj n rfl
      simp [reprCore, evalV, hn, henv]
    · have hc'' : ∀ n, c ≠ .object n := fun n hn => hc' ⟨n, hn⟩
      exact eval_core env c ⟨kw, items, addI, cont, props, pats, addP, pn, deps, els⟩ _ hc''
        ⟨eval_reprList env items hi, eval_reprOpt env addI ha, eval_reprOpt env cont hc, eval_reprProps env props hp,
         eval_reprPats env pats hpt, eval_reprOpt env addP hap, eval_reprOpt env pn hpn, eval_reprDeps env deps hd,
         eval_reprList env els he⟩ (hnode hc'')
theorem eval_reprOpt (env) : ∀ (o : Option Elem), WFO env o → evalO env (reprOpt o) = some (o.map PyVal.elem)
  | none, _ => rfl
  | some e, h => by
    rw [WFO] at h
    simp [reprOpt, evalO, eval_repr env e h]
theorem eval_reprList (env) : ∀ (l : List Elem), WFL env l → evalVs env (reprList l) = some (l.map PyVal.elem)
  | [], _ => rfl
  | e :: r, h => by
    rw [WFL] at h
    simp [reprList, evalVs, eval_repr env e h.1, eval_reprList env r h.2]
theorem eval_reprProps (env) : ∀ (l : List (Key × Elem)), WFK env l →
    evalKVs env ((reprKeyed l).map fun p => (p.1.name, propExpr p.1 p.2)) = some (l.map propEntry)
  | [], _ => rfl
  | (k, e) :: r, h => by
    rw [WFK] at h
    simp only [reprKeyed, List.map_cons, evalKVs, evalV_propExpr env k _ e (eval_repr env e h.1), eval_reprProps env r h.2]
    rfl
theorem eval_reprPats (env) : ∀ (l : List (Key × Elem)), WFK env l →
    evalKVs env ((reprKeyed l).map fun p => (p.1.name, p.2)) = some (l.map patEntry)
  | [], _ => rfl
  | (k, e) :: r, h => by
    rw [WFK] at h
    simp only [reprKeyed, List.map_cons, evalKVs, eval_repr env e h.1, eval_reprPats env r h.2]
    rfl
theorem eval_reprDeps (env) : ∀ (l : List (Key × Elem)), WFD env l →
    evalKVs env ((reprKeyed l).map depExpr) = some (l.map depEntry)
  | [], _ => rfl
  | (k, e) :: r, h => by
    rw [WFD] at h
    have ih := eval_reprDeps env r h.2
    simp only [reprKeyed, List.map_cons, evalKVs, depExpr, depEntry]
    cases hk : k.names with
    | none =>
      have he : evalV env (reprExpr e) = some (.elem e) := by
        rcases h.1 with h1 | h1
        · rw [hk] at h1; cases h1
        · exact eval_repr env e h1
      simp only [he, ih]
    | some l => simp only [evalV, ih]
end

/-! ### leaves: `evalLeaf` is `evalV` on a call whose keyword values are literals or empty containers -/

/-- the forms a keyword of an element without sub-elements is printed in -/
def Leafy : PyExpr → Prop
  | .lit _ => True
  | .list [] => True
  | .dict [] => True
  | _ => False

def IsLeaf (s : St) : Prop := s = { kw := s.kw }

theorem setLit_of_setArg {s s' : St} {n : String} {x : PyExpr} {v : PyVal} (hx : Leafy x) (hv : evalV env x = some v)
    (hs : setArg s n v = some s') (hl : IsLeaf s) : setLit s.kw n x = some s'.kw ∧ IsLeaf s' := by
  unfold Leafy at hx
  split at hx
  · cases hv
    rw [setArg_lit, Option.map_eq_some_iff] at hs
    obtain ⟨kw, hkw, rfl⟩ := hs
    exact ⟨hkw, by rw [hl]; rfl⟩
  · -- `.elems []` reaches only the `items` arm of `setArg`, and `setLit` has the matching `.list []` arm
    cases hv
    generalize hw : PyVal.elems [] = w at hs
    unfold setArg at hs
    split at hs <;> cases hw <;> cases hs
    exact ⟨by rw [setLit], by rw [hl]; rfl⟩
  · -- `.entries []` reaches only the three dictionary arms, and `setLit` has the matching `.dict []` arms
    cases hv
    generalize hw : PyVal.entries [] = w at hs
    unfold setArg at hs
    split at hs <;> cases hw <;> cases hs
    · exact ⟨by rw [setLit], by rw [hl]; rfl⟩
    · exact ⟨by rw [setLit], by rw [hl]; rfl⟩
    · exact ⟨by rw [setLit], by rw [hl]; rfl⟩
  · exact hx.elim

theorem applyKwargs_of_applyVals : ∀ (kwargs : List (String × PyExpr)) (kvs : List (String × PyVal)) (s s' : St),
    (∀ p ∈ kwargs, Leafy p.2) → evalKVs env kwargs = some kvs → applyVals s kvs = some s' → IsLeaf s →
    applyKwargs s.kw kwargs = some s'.kw ∧ IsLeaf s'
  | [], kvs, s, s', _, hk, ha, hl => by
    cases hk
    cases ha
    exact ⟨rfl, hl⟩
  | (n, x) :: r, kvs, s, s', hx, hk, ha, hl => by
    obtain ⟨v, vs, hv, hr, rfl⟩ := evalKVs_cons hk
    rw [applyVals] at ha
    cases hs : setArg s n v with
    | none => simp [hs] at ha
    | some s1 =>
      simp only [hs] at ha
      obtain ⟨h1, hl1⟩ := setLit_of_setArg (hx _ (List.mem_cons_self ..)) hv hs hl
      rw [applyKwargs, h1]
      exact applyKwargs_of_applyVals r vs s1 s' (fun p hp => hx p (List.mem_cons_of_mem _ hp)) hr ha hl1

theorem classOf_leaf {f : String} {c : Cls} (h : leafClassOf f = some c) :
    f ≠ "Property" ∧ classOf f = some c ∧ positional c [] = some {} := by
  unfold leafClassOf at h
  -- six arms name a leaf class and leave the goal at that class; the last is `none = some c`
  split at h <;> cases h <;> exact ⟨by simp, by rw [classOf], rfl⟩

theorem evalLeaf_of_evalV {f : String} {kwargs : List (String × PyExpr)} {c : Cls} {e : Elem} (hc : leafClassOf f = some c)
    (hl : ∀ p ∈ kwargs, Leafy p.2) (h : evalV env (.call f [] kwargs) = some (.elem e)) :
    evalLeaf (.call f [] kwargs) = some e := by
  obtain ⟨hf, hcls, hpos⟩ := classOf_leaf hc
  rw [evalV, evalVs] at h
  cases hk : evalKVs env kwargs with
  | none => simp [hk] at h
  | some kvs =>
    simp only [hk, pyConstruct, hf, if_false, hcls, hpos] at h
    split at h
    · cases ha : applyVals {} kvs with
      | none => simp [ha] at h
      | some s =>
        simp only [ha, Option.map_some, Option.some.injEq, PyVal.elem.injEq] at h
        obtain ⟨h1, h2⟩ := applyKwargs_of_applyVals kwargs kvs {} s hl hk ha rfl
        rw [evalLeaf, hc, h1, ← h, h2]
        rfl
    · cases h

theorem kwExpr_leafy (kw : Kw) (name : String) (x : PyExpr) (h : kwExpr kw {} name = some x) : Leafy x := by
  have hp := kwExpr_printed kw {} name
  rw [h] at hp
  cases hp with
  | kid h => simp at h
  | _ => trivial

theorem reprCore_leaf {c : Cls} (h : leafClassOf (pyClassName c) = some c) (kw : Kw) :
    (∀ n, c ≠ .object n) ∧ reprCore c kw {} = .call (pyClassName c) [] (kwargsOf (sigOf c) kw {}) := by
  unfold leafClassOf at h
  -- as in `classOf_leaf`: what is left is the goal at each of the six leaf classes
  split at h <;> cases h <;> exact ⟨nofun, rfl⟩

/-- the printed form of a leaf element evaluates back to it under `evalLeaf`: `eval_core`, carried over by `evalLeaf_of_evalV` -/
theorem evalLeaf_reprCore (c : Cls) (kw : Kw) (hc : leafClassOf (pyClassName c) = some c) (ok : NodeOK c { kw := kw }) :
    evalLeaf (reprCore c kw {}) = some (Elem.leaf c kw) := by
  obtain ⟨ho, hcall⟩ := reprCore_leaf hc kw
  have h := eval_core (fun _ => none) c { kw := kw } {} ho ⟨rfl, rfl, rfl, rfl, rfl, rfl, rfl, rfl, rfl⟩ ok
  rw [hcall] at h ⊢
  exact evalLeaf_of_evalV hc (fun p hp => kwExpr_leafy kw p.1 p.2 (mem_kwargsOf.mp hp).2) h

end Statham.PyEval
