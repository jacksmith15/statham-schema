/-
  What a successful call returns (for C04, C05, C19): shape lemmas at the level of `Res`.
-/
import StathamModel.Lemmas.CallVerdict
import StathamModel.Lemmas.ListAux
namespace Statham

theorem collect_ok {rs : List Res} {xs : List RVal} (h : collect rs = .ok (.arr xs)) :
    rs = xs.map Res.ok := by
  rcases collect_cases rs with h' | h' | ⟨ys, h', e⟩
  · rw [h'] at h; cases h
  · rw [h'] at h; cases h
  · rw [h'] at h; cases h; exact e

theorem collectKV_ok {rs : List (String × Res)} {xs : List (String × RVal)} (h : collectKV rs = .ok (.anon xs)) :
    rs = xs.map fun kr => (kr.1, Res.ok kr.2) := by
  rcases collectKV_cases rs with h' | h' | ⟨ys, h', e⟩
  · rw [h'] at h; cases h
  · rw [h'] at h; cases h
  · rw [h'] at h; cases h; exact e

theorem itemsCall_ok {kw : Kw} {sub : Sub} {xs : List JVal} {rs : List RVal}
    (h : itemsCall kw sub xs = .ok (.arr rs)) :
    itemsCallFrom resAlg kw sub 0 xs = rs.map Res.ok := collect_ok h

theorem itemsCallFrom_length {ρ} (alg : Alg ρ) (kw : Kw) (sub : SubG ρ) (xs : List JVal) (i : Nat) :
    (itemsCallFrom alg kw sub i xs).length = xs.length := by
  rw [itemsCallFrom_eq, List.length_mapIdx]

theorem itemsCall_length {kw : Kw} {sub : Sub} {xs : List JVal} {rs : List RVal}
    (h : itemsCall kw sub xs = .ok (.arr rs)) : rs.length = xs.length := by
  have := congrArg List.length (itemsCall_ok h)
  simpa [itemsCallFrom_length] using this.symm

theorem propsCall_ok {env : Env} {kw : Kw} {sub : Sub} {kvs : List (String × JVal)} {L : List (String × RVal)}
    (h : propsCall env kw sub kvs = .ok (.anon L)) :
    ∃ l, propsOuts resAlg env kw sub kvs = l.map (fun kr => (kr.1, Res.ok kr.2)) ∧ L = dictOfList l := by
  unfold propsCall at h
  rcases collectKV_cases (propsOuts resAlg env kw sub kvs) with hs | hs | ⟨xs, hs, e⟩
  · simp [hs] at h
  · simp [hs] at h
  · simp only [hs, Res.ok.injEq, RVal.anon.injEq] at h
    exact ⟨xs, e, h.symm⟩

/-- every visited key's outcome is in the result under its resolved name (no two visited keys
    resolving to one name) -/
theorem propsCall_member {env : Env} {kw : Kw} {sub : Sub} {kvs : List (String × JVal)} {L : List (String × RVal)}
    (h : propsCall env kw sub kvs = .ok (.anon L))
    (hd : distinct ((propsOuts resAlg env kw sub kvs).map (·.1)) = true)
    {k : String} (hk : k ∈ visitKeys sub kvs) :
    ∃ r, (resolveCall resAlg env kw sub k (argOf kvs k)).2 = .ok r ∧
      dictGet? L (resolveCall resAlg env kw sub k (argOf kvs k)).1 = some r := by
  obtain ⟨l, hl, rfl⟩ := propsCall_ok h
  have hmem : resolveCall resAlg env kw sub k (argOf kvs k) ∈ propsOuts resAlg env kw sub kvs := by
    unfold propsOuts; exact List.mem_map.mpr ⟨k, hk, rfl⟩
  rw [hl] at hmem
  obtain ⟨kr, hkr, he⟩ := List.mem_map.mp hmem
  refine ⟨kr.2, by rw [← he], ?_⟩
  have hd' : distinct (l.map (·.1)) = true := by
    rw [hl, List.map_map] at hd
    exact hd
  rw [← he]
  exact dictOfList_get_mem l hd' (by cases kr; exact hkr)

theorem guard_ok {g : V} {x : Res} {r : RVal} (h : Res.guard g x = .ok r) : g = .pass ∧ x = .ok r := by
  cases g <;> cases x <;> simp [Res.guard] at h ⊢
  exact h

theorem collect_arr {rs : List Res} {r : RVal} (h : collect rs = .ok r) : ∃ xs, r = .arr xs := by
  rcases collect_cases rs with hs | hs | ⟨ys, hs, -⟩
  · rw [hs] at h; cases h
  · rw [hs] at h; cases h
  · rw [hs] at h; exact ⟨ys, (Res.ok.inj h).symm⟩

theorem propsCall_anon {env : Env} {kw : Kw} {sub : Sub} {kvs : List (String × JVal)} {r : RVal}
    (h : propsCall env kw sub kvs = .ok r) : ∃ l, r = .anon l := by
  simp only [propsCall] at h
  rcases collectKV_cases (propsOuts resAlg env kw sub kvs) with hs | hs | ⟨ys, hs, -⟩
  · simp only [hs] at h; cases h
  · simp only [hs] at h; cases h
  · simp only [hs] at h; exact ⟨_, (Res.ok.inj h).symm⟩

/-- the five ways `construct` returns a value: `Not`, a composition, `Number`, an object class, or the untyped
    construction every other class shares -/
theorem construct_ok {env : Env} {c : Cls} {kw : Kw} {sub : Sub} {v : JVal} {r : RVal}
    (h : construct env c kw sub v = .ok r) :
    (∃ f, c = .not ∧ sub.elements = [f] ∧ f (.val v) = .reject ∧ r = .raw v) ∨
    ((c = .anyOf ∨ c = .oneOf ∨ c = .allOf) ∧ attempt c (sub.elements.map fun f => f (.val v)) = .ok r) ∨
    (∃ n d, c = .number ∧ v = .num n ∧ asDouble n = some d ∧ r = .num d) ∨
    (∃ name kvs l, c = .object name ∧ v = .obj kvs ∧ propsCall env kw sub kvs = .ok (.anon l) ∧ r = .inst name l) ∨
    ((c = .element ∨ c = .nothing ∨ c = .boolean ∨ c = .integer ∨ c = .null ∨ c = .string ∨ c = .array) ∧
      (match v with
        | .arr xs => itemsCall kw sub xs
        | .obj kvs => propsCall env kw sub kvs
        | v => Res.ok (scalarConv v)) = .ok r) := by
  unfold construct at h
  split at h
  · split at h
    · rename_i f hs
      split at h
      · cases h
      · exact Or.inl ⟨f, rfl, hs, by assumption, (Res.ok.inj h).symm⟩
      · cases h
    · cases h
  · exact Or.inr (Or.inl ⟨Or.inl rfl, h⟩)
  · exact Or.inr (Or.inl ⟨Or.inr (Or.inl rfl), h⟩)
  · exact Or.inr (Or.inl ⟨Or.inr (Or.inr rfl), h⟩)
  · split at h
    · rename_i n
      split at h
      · cases h
      · rename_i d hd; exact Or.inr (Or.inr (Or.inl ⟨n, d, rfl, rfl, hd, (Res.ok.inj h).symm⟩))
    · cases h
  · rename_i name
    split at h
    · rename_i kvs
      split at h
      · rename_i l hp; exact Or.inr (Or.inr (Or.inr (Or.inl ⟨name, kvs, l, rfl, rfl, hp, (Res.ok.inj h).symm⟩)))
      · obtain ⟨l, rfl⟩ := propsCall_anon h
        rename_i hne; exact absurd h (hne l)
    · cases h
  · refine Or.inr (Or.inr (Or.inr (Or.inr ⟨?_, h⟩)))
    clear h
    cases c <;> simp_all

end Statham
