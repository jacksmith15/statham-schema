/-
  `_parse_properties` / `_parse_object` property tables when no two JSON names collapse onto
  one Python attribute name: the tables are then plain maps of the declared properties,
  followed by the synthetic required ones.
-/
import StathamModel.Lemmas.ListAux
namespace Statham

def mkKey (cx : PCtx) (req : List String) (n : String) : Key :=
  { name := attrName cx.ci cx.reserved n, required := req.contains n, source := some n }

def synthKey (cx : PCtx) (n : String) : Key :=
  { name := attrName cx.ci cx.reserved n, required := true, source := some n }

theorem src_mkKey (cx : PCtx) (req : List String) (n : String) (h : n ≠ "") : (mkKey cx req n).src = n := by
  simp [mkKey, Key.src, h]

theorem src_synthKey (cx : PCtx) (n : String) (h : n ≠ "") : (synthKey cx n).src = n := by
  simp [synthKey, Key.src, h]

theorem propsInsert_fresh (d : List (Key × Elem)) (k : Key) (e : Elem)
    (h : ∀ p ∈ d, p.1.name ≠ k.name) : propsInsert d k e = d ++ [(k, e)] := by
  induction d with
  | nil => rfl
  | cons p ps ih =>
    obtain ⟨k', e'⟩ := p
    have h1 : k'.name ≠ k.name := h (k', e') (List.mem_cons_self ..)
    simp only [propsInsert, h1, if_false, List.cons_append]
    rw [ih fun q hq => h q (List.mem_cons_of_mem _ hq)]

theorem foldl_propsInsert {α} (key : α → Key) (el : α → Elem) (xs : List α) (base : List (Key × Elem))
    (hbase : ∀ p ∈ base, ∀ x ∈ xs, p.1.name ≠ (key x).name)
    (hd : xs.Pairwise fun x y => (key x).name ≠ (key y).name) :
    xs.foldl (fun d x => propsInsert d (key x) (el x)) base = base ++ xs.map fun x => (key x, el x) := by
  induction xs generalizing base with
  | nil => rw [List.foldl_nil, List.map_nil, List.append_nil]
  | cons x xs ih =>
    obtain ⟨hx, hd⟩ := List.pairwise_cons.mp hd
    rw [List.foldl_cons, propsInsert_fresh _ _ _ fun p hp => hbase p hp x (List.mem_cons_self ..), ih _ _ hd,
      List.append_assoc, List.map_cons, List.singleton_append]
    intro p hp y hy
    rcases List.mem_append.mp hp with hp | hp
    · exact hbase p hp y (List.mem_cons_of_mem _ hy)
    · rw [List.mem_singleton.mp hp]; exact hx y hy

theorem pairwise_ne_of_injOn {α β} {f : String → β} (g : α → String) {xs : List α}
    (hinj : ∀ a ∈ xs.map g, ∀ b ∈ xs.map g, f a = f b → a = b) (hd : distinct (xs.map g) = true) :
    xs.Pairwise fun x y => f (g x) ≠ f (g y) := by
  induction xs with
  | nil => exact List.Pairwise.nil
  | cons a l ih =>
    obtain ⟨ha, hd⟩ := distinct_cons.mp hd
    refine List.pairwise_cons.mpr ⟨fun b hb e => ?_, ih (fun x hx y hy => hinj x (.tail _ hx) y (.tail _ hy)) hd⟩
    exact ha (hinj (g a) (.head _) (g b) (.tail _ (List.mem_map_of_mem hb)) e ▸ List.mem_map_of_mem hb)

/-- `foldl_propsInsert` for keys named `f (g x)`, `f` injective on the distinct `g x`.  `f` is a variable up to the
    last step: when the unifier has to compare `Key.name (mkKey ..)` with `attrName ..` while a metavariable is about,
    it unfolds `attrName` down to the UTF-8 decoder. -/
theorem foldl_propsInsert_inj {α} (f : String → String) (g : α → String) (key : α → Key) (el : α → Elem)
    (xs : List α) (base : List (Key × Elem)) (hkey : ∀ x, (key x).name = f (g x))
    (hbase : ∀ p ∈ base, ∀ x ∈ xs, p.1.name ≠ f (g x))
    (hinj : ∀ a ∈ xs.map g, ∀ b ∈ xs.map g, f a = f b → a = b) (hd : distinct (xs.map g) = true) :
    xs.foldl (fun d x => propsInsert d (key x) (el x)) base = base ++ xs.map fun x => (key x, el x) := by
  apply foldl_propsInsert
  · simpa only [hkey] using hbase
  · simpa only [hkey] using pairwise_ne_of_injOn g hinj hd

def InjOn (cx : PCtx) (names : List String) : Prop :=
  ∀ a ∈ names, ∀ b ∈ names, attrName cx.ci cx.reserved a = attrName cx.ci cx.reserved b → a = b

theorem buildProps_map (cx : PCtx) (req : List String) (ps : List (String × Elem))
    (hd : distinct (ps.map (·.1)) = true) (hinj : InjOn cx (ps.map (·.1))) :
    buildProps cx req ps = ps.map fun kv => (mkKey cx req kv.1, kv.2) :=
  foldl_propsInsert_inj (attrName cx.ci cx.reserved) (fun kv : String × Elem => kv.1) (fun kv => mkKey cx req kv.1)
    (fun kv => kv.2) ps [] (fun _ => rfl) (fun _ h => nomatch h) hinj hd

/-- the names `_parse_object` adds synthetic properties for -/
def synthNames (req : List String) (ps : List (String × Elem)) : List String :=
  req.filter fun n => !(ps.map (·.1)).contains n

theorem mem_synthNames {req : List String} {ps : List (String × Elem)} {n : String} :
    n ∈ synthNames req ps ↔ n ∈ req ∧ n ∉ ps.map (·.1) := by
  simp only [synthNames, List.mem_filter, List.contains_eq_mem, Bool.not_eq_true', decide_eq_false_iff_not]

theorem withSynthetic_eq (cx : PCtx) (req : List String) (ps : List (String × Elem))
    (hdr : distinct req = true) (hinj : InjOn cx (ps.map (·.1) ++ req)) :
    withSynthetic cx req (ps.map fun kv => (mkKey cx req kv.1, kv.2)) =
      (ps.map fun kv => (mkKey cx req kv.1, kv.2)) ++
        (synthNames req ps).map fun n => (synthKey cx n, Elem.trivial) := by
  have hcross : ∀ kv ∈ ps, ∀ n ∈ req, attrName cx.ci cx.reserved kv.1 = attrName cx.ci cx.reserved n → kv.1 = n :=
    fun kv hkv n hn => hinj kv.1 (List.mem_append_left _ (List.mem_map_of_mem hkv)) n (List.mem_append_right _ hn)
  -- `_parse_object` looks for a declared property with the same attribute name; that is one with the same JSON name
  have hfresh : (req.filter fun key =>
        !((ps.map fun kv => (mkKey cx req kv.1, kv.2)).any fun p => p.1.name == attrName cx.ci cx.reserved key)) =
      synthNames req ps := by
    refine List.filter_congr fun n hn => congrArg (!·) (Bool.eq_iff_iff.mpr ?_)
    simp only [List.any_map, List.any_eq_true, Function.comp_apply, mkKey, beq_iff_eq, List.contains_eq_mem,
      List.mem_map, decide_eq_true_eq]
    exact ⟨fun ⟨kv, hkv, he⟩ => ⟨kv, hkv, hcross kv hkv n hn he⟩, fun ⟨kv, hkv, he⟩ => ⟨kv, hkv, he ▸ rfl⟩⟩
  unfold withSynthetic
  simp only [hfresh]
  refine foldl_propsInsert_inj (attrName cx.ci cx.reserved) id (synthKey cx) (fun _ => Elem.trivial) _ _ (fun _ => rfl)
    ?_ ?_ (by rw [List.map_id]; exact distinct_filter _ hdr)
  · intro p hp n hn e
    obtain ⟨kv, hkv, rfl⟩ := List.mem_map.mp hp
    obtain ⟨hnr, hnp⟩ := mem_synthNames.mp hn
    exact hnp (hcross kv hkv n hnr e ▸ List.mem_map_of_mem hkv)
  · rw [List.map_id]
    exact fun a ha b hb => hinj a (List.mem_append_right _ (List.mem_filter.mp ha).1) b
      (List.mem_append_right _ (List.mem_filter.mp hb).1)

/-- the class's property table: declared properties, then the synthetic required ones -/
def classProps (cx : PCtx) (req : List String) (ps : List (String × Elem)) : List (Key × Elem) :=
  (ps.map fun kv => (mkKey cx req kv.1, kv.2)) ++ (synthNames req ps).map fun n => (synthKey cx n, Elem.trivial)

theorem withSynthetic_buildProps (cx : PCtx) (req : List String) (ps : List (String × Elem))
    (hn : distinct (ps.map (·.1)) = true) (hr : distinct req = true) (hinj : InjOn cx (ps.map (·.1) ++ req)) :
    withSynthetic cx req (buildProps cx req ps) = classProps cx req ps := by
  rw [buildProps_map cx _ _ hn fun a ha b hb => hinj a (List.mem_append_left _ ha) b (List.mem_append_left _ hb),
    withSynthetic_eq cx _ _ hr hinj]
  rfl

end Statham
