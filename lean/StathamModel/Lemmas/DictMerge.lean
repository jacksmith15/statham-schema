/-
  Algebra of Python dict insertion (`dictSet`) and dict merge (`{**a, **b}` = `dictMerge`), order included.
-/
import StathamModel.Inherit
import StathamModel.Lemmas.ListAux
namespace Statham

theorem dictSet_dictSet_same {α} (d : List (String × α)) (k : String) (v v' : α) :
    dictSet (dictSet d k v) k v' = dictSet d k v' := by
  induction d with
  | nil => simp [dictSet]
  | cons p r ih =>
    obtain ⟨k', w⟩ := p
    by_cases e : k = k'
    · simp [dictSet, e]
    · simp [dictSet, e, ih]

def hasKey {α} (d : List (String × α)) (k : String) : Bool := (dictGet? d k).isSome

theorem hasKey_dictSet_self {α} (d : List (String × α)) (k : String) (v : α) : hasKey (dictSet d k v) k = true := by
  rw [hasKey, dictSet_get]; rfl

theorem hasKey_dictSet_of {α} (d : List (String × α)) (k k' : String) (v : α) (h : hasKey d k = true) :
    hasKey (dictSet d k' v) k = true := by
  by_cases e : k = k'
  · rw [e]; exact hasKey_dictSet_self d k' v
  · rw [hasKey, dictSet_get_ne d k' k v e]; exact h

theorem dictSet_comm_of_hasKey {α} (d : List (String × α)) (k k' : String) (v v' : α) (hne : k ≠ k')
    (h : hasKey d k = true) : dictSet (dictSet d k' v') k v = dictSet (dictSet d k v) k' v' := by
  induction d with
  | nil => simp [hasKey, dictGet?] at h
  | cons p r ih =>
    obtain ⟨k0, w⟩ := p
    by_cases e : k = k0
    · subst e
      have : ¬ k' = k := fun x => hne x.symm
      simp [dictSet, this]
    · simp only [hasKey, dictGet?, e, if_false] at h
      by_cases e2 : k' = k0
      · subst e2; simp [dictSet, e]
      · simp only [hasKey] at ih
        simp [dictSet, e, e2, ih h]

theorem dictMerge_nil {α} (a : List (String × α)) : dictMerge a [] = a := rfl
theorem dictMerge_cons {α} (a : List (String × α)) (kv : String × α) (b : List (String × α)) :
    dictMerge a (kv :: b) = dictMerge (dictSet a kv.1 kv.2) b := rfl

theorem hasKey_dictMerge_left {α} (a b : List (String × α)) (k : String) (h : hasKey a k = true) :
    hasKey (dictMerge a b) k = true := by
  induction b generalizing a with
  | nil => exact h
  | cons kv r ih => rw [dictMerge_cons]; exact ih _ (hasKey_dictSet_of a k kv.1 kv.2 h)

/-- a Python dict has each key once -/
def keysDistinct {α} : List (String × α) → Prop
  | [] => True
  | p :: r => (∀ q ∈ r, q.1 ≠ p.1) ∧ keysDistinct r

theorem mem_dictSet {α} (d : List (String × α)) (k : String) (v : α) (q : String × α) (h : q ∈ dictSet d k v) :
    q = (k, v) ∨ q ∈ d := by
  induction d with
  | nil => exact Or.inl (List.mem_singleton.mp h)
  | cons p r ih =>
    rw [dictSet] at h
    split at h
    · exact (List.mem_cons.mp h).imp id (List.mem_cons_of_mem _)
    · rcases List.mem_cons.mp h with h | h
      · exact Or.inr (h ▸ List.mem_cons_self ..)
      · exact (ih h).imp id (List.mem_cons_of_mem _)

theorem keysDistinct_dictSet {α} (d : List (String × α)) (k : String) (v : α) (h : keysDistinct d) :
    keysDistinct (dictSet d k v) := by
  induction d with
  | nil => exact ⟨by simp, trivial⟩
  | cons p r ih =>
    obtain ⟨k0, w⟩ := p
    by_cases e : k = k0
    · subst e; simpa [dictSet, keysDistinct] using h
    · simp only [dictSet, e, if_false]
      refine ⟨fun q hq => ?_, ih h.2⟩
      rcases mem_dictSet r k v q hq with rfl | hq
      · exact e
      · exact h.1 q hq

theorem dictSet_dictMerge_of_hasKey {α} (x r : List (String × α)) (k : String) (v : α)
    (hk : hasKey x k = true) (hr : ∀ q ∈ r, q.1 ≠ k) :
    dictSet (dictMerge x r) k v = dictMerge (dictSet x k v) r := by
  induction r generalizing x with
  | nil => rfl
  | cons kv r ih =>
    rw [dictMerge_cons, dictMerge_cons]
    have hne : k ≠ kv.1 := fun e => hr kv (List.mem_cons_self ..) e.symm
    rw [ih _ (hasKey_dictSet_of x k kv.1 kv.2 hk) (fun q hq => hr q (List.mem_cons_of_mem _ hq))]
    rw [dictSet_comm_of_hasKey x k kv.1 v kv.2 hne hk]

theorem dictMerge_dictSet {α} (a b : List (String × α)) (k : String) (v : α) (hb : keysDistinct b) :
    dictMerge a (dictSet b k v) = dictSet (dictMerge a b) k v := by
  induction b generalizing a with
  | nil => rfl
  | cons p r ih =>
    obtain ⟨k0, w⟩ := p
    by_cases e : k = k0
    · subst e
      simp only [dictSet, if_true, dictMerge_cons]
      rw [dictSet_dictMerge_of_hasKey _ r k v (hasKey_dictSet_self a k w) (fun q hq => hb.1 q hq), dictSet_dictSet_same]
    · simp only [dictSet, e, if_false, dictMerge_cons]
      exact ih _ hb.2

/-- `{**{**a, **b}, **c} == {**a, **{**b, **c}}`, order included -/
theorem dictMerge_assoc {α} (a b c : List (String × α)) (hb : keysDistinct b) :
    dictMerge (dictMerge a b) c = dictMerge a (dictMerge b c) := by
  induction c generalizing b with
  | nil => rfl
  | cons kv c ih =>
    rw [dictMerge_cons, dictMerge_cons, ← ih _ (keysDistinct_dictSet b kv.1 kv.2 hb), dictMerge_dictSet a b kv.1 kv.2 hb]

theorem keysDistinct_dictMerge {α} (a b : List (String × α)) (h : keysDistinct a) : keysDistinct (dictMerge a b) := by
  induction b generalizing a with
  | nil => exact h
  | cons kv r ih => rw [dictMerge_cons]; exact ih _ (keysDistinct_dictSet a kv.1 kv.2 h)

theorem mem_dictMerge {α} (a b : List (String × α)) (q : String × α) (h : q ∈ dictMerge a b) : q ∈ a ∨ q ∈ b := by
  induction b generalizing a with
  | nil => exact Or.inl h
  | cons kv r ih =>
    rw [dictMerge_cons] at h
    rcases ih _ h with h | h
    · rcases mem_dictSet a kv.1 kv.2 q h with rfl | h
      · exact Or.inr (List.mem_cons_self ..)
      · exact Or.inl h
    · exact Or.inr (List.mem_cons_of_mem _ h)

theorem dictGet?_dictMerge_left {α} (a b : List (String × α)) (k : String) (h : dictGet? b k = none) :
    dictGet? (dictMerge a b) k = dictGet? a k := by
  induction b generalizing a with
  | nil => rfl
  | cons kv r ih =>
    rw [dictMerge_cons]
    by_cases e : k = kv.1
    · simp [dictGet?, e] at h
    · simp only [dictGet?, e, if_false] at h
      rw [ih _ h, dictSet_get_ne _ _ _ _ e]

theorem dictGet?_dictMerge_right {α} (a b : List (String × α)) (k : String) (v : α) (hb : keysDistinct b)
    (h : dictGet? b k = some v) : dictGet? (dictMerge a b) k = some v := by
  induction b generalizing a with
  | nil => simp [dictGet?] at h
  | cons kv r ih =>
    rw [dictMerge_cons]
    by_cases e : k = kv.1
    · simp only [dictGet?, e, if_true, Option.some.injEq] at h
      rw [e, dictGet?_dictMerge_left _ r kv.1 (dictGet?_none_of_keys r kv.1 hb.1), dictSet_get, h]
    · simp only [dictGet?, e, if_false] at h
      exact ih _ hb.2 h

end Statham
