/-
  `Element.__eq__` is reflexive on well-formed trees (dictionaries — literal objects and keyed
  containers — have distinct keys, which is what a Python `dict` is).
-/
import StathamModel.Lemmas.ListAux
namespace Statham

theorem Num.eqv_refl (n : Num) : Num.eqv n n = true := by simp [Num.eqv]

mutual
theorem pyEq_refl : ∀ (v : JVal), distinctKeys v = true → JVal.pyEq v v = true
  | .null, _ => by simp [JVal.pyEq]
  | .bool b, _ => by simp [JVal.pyEq]
  | .num n, _ => by simp [JVal.pyEq, Num.eqv_refl]
  | .str s, _ => by simp [JVal.pyEq]
  | .arr xs, h => by
    rw [JVal.pyEq]
    exact pyEqList_refl xs (by simpa [distinctKeys] using h)
  | .obj kvs, h => by
    rw [JVal.pyEq]
    simp only [distinctKeys, Bool.and_eq_true] at h
    simp only [beq_self_eq_true, Bool.true_and]
    exact pyEqObj_refl kvs kvs h.2 (fun kv hkv => hkv) h.1
theorem pyEqList_refl : ∀ (xs : List JVal), distinctKeys.dkL xs = true → JVal.pyEqList xs xs = true
  | [], _ => by simp [JVal.pyEqList]
  | x :: xs, h => by
    simp only [distinctKeys.dkL, Bool.and_eq_true] at h
    rw [JVal.pyEqList]
    simp only [Bool.and_eq_true]
    exact ⟨pyEq_refl x h.1, pyEqList_refl xs h.2⟩
-- the walk consumes `xs` but looks every key up in the whole dictionary, hence `ys` and `hsub`
theorem pyEqObj_refl : ∀ (xs ys : List (String × JVal)), distinctKeys.dkKV xs = true →
    (∀ kv ∈ xs, kv ∈ ys) → distinct (ys.map (·.1)) = true → JVal.pyEqObj xs ys = true
  | [], _, _, _, _ => by simp [JVal.pyEqObj]
  | (k, v) :: r, ys, h, hsub, hd => by
    simp only [distinctKeys.dkKV, Bool.and_eq_true] at h
    rw [JVal.pyEqObj]
    have hl : JVal.lookup k ys = some v := lookup_mem_distinct hd (hsub (k, v) (List.mem_cons_self ..))
    simp only [hl, Bool.and_eq_true]
    exact ⟨pyEq_refl v h.1, pyEqObj_refl r ys h.2 (fun kv hkv => hsub kv (List.mem_cons_of_mem _ hkv)) hd⟩
end

theorem optEq_refl {α} (f : α → α → Bool) (o : Option α) (h : ∀ a, o = some a → f a a = true) : optEq f o o = true := by
  cases o with
  | none => rfl
  | some a => exact h a rfl

theorem listEq_refl {α} (f : α → α → Bool) (l : List α) (h : ∀ a ∈ l, f a a = true) : listEq f l l = true := by
  induction l with
  | nil => rfl
  | cons a l ih =>
    simp only [listEq, Bool.and_eq_true]
    exact ⟨h a (List.mem_cons_self ..), ih fun x hx => h x (List.mem_cons_of_mem _ hx)⟩

/-- literals of a keyword record are dictionaries with distinct keys -/
def Kw.litsOk (kw : Kw) : Bool :=
  optAll kw.default distinctKeys && optAll kw.const distinctKeys && optAll kw.enum (fun l => l.all distinctKeys)

theorem Kw.eq_refl (kw : Kw) (h : kw.litsOk = true) : Kw.eq kw kw = true := by
  unfold Kw.litsOk at h
  simp only [Bool.and_eq_true] at h
  obtain ⟨⟨h1, h2⟩, h3⟩ := h
  have e1 : optEq JVal.pyEq kw.default kw.default = true :=
    optEq_refl _ _ fun a ha => pyEq_refl a (by rw [ha] at h1; exact h1)
  have e2 : optEq JVal.pyEq kw.const kw.const = true :=
    optEq_refl _ _ fun a ha => pyEq_refl a (by rw [ha] at h2; exact h2)
  have e3 : optEq (listEq JVal.pyEq) kw.enum kw.enum = true :=
    optEq_refl _ _ fun l hl => listEq_refl _ l fun a ha => pyEq_refl a (by
      rw [hl] at h3; simp only [optAll, List.all_eq_true] at h3; exact h3 a ha)
  have en : ∀ o : Option Num, optEq Num.eqv o o = true := fun o => optEq_refl _ _ fun a _ => Num.eqv_refl a
  unfold Kw.eq
  simp [e1, e2, e3, en]

theorem Cls.sameClass_refl (c : Cls) : Cls.sameClass c c = true := by
  cases c <;> simp [Cls.sameClass]

theorem keyedFind_mem {α} {l : List (Key × α)} {k : Key} {a : α}
    (hd : distinct (l.map (·.1.name)) = true) (h : (k, a) ∈ l) : keyedFind k.name l = some (k, a) := by
  induction l with
  | nil => cases h
  | cons p l ih =>
    obtain ⟨k', a'⟩ := p
    simp only [List.map_cons, distinct_cons] at hd
    rcases List.mem_cons.mp h with e | e
    · cases e; simp [keyedFind]
    · have hne : k'.name ≠ k.name := by
        intro he
        apply hd.1
        rw [he]
        exact List.mem_map.mpr ⟨(k, a), e, rfl⟩
      simp [keyedFind, hne, ih hd.2 e]

mutual
/-- well-formed tree: literals and keyed containers are dictionaries (distinct keys), at every node -/
def wfElem : Elem → Bool
  | .mk _ kw items addI cont props pats addP pn deps els =>
    kw.litsOk && distinct (props.map (·.1.name)) && distinct (pats.map (·.1.name)) &&
      distinct (deps.map (·.1.name)) &&
      wfL items && wfO addI && wfO cont && wfK props && wfK pats && wfO addP && wfO pn && wfK deps && wfL els
def wfO : Option Elem → Bool
  | none => true
  | some e => wfElem e
def wfL : List Elem → Bool
  | [] => true
  | e :: es => wfElem e && wfL es
def wfK : List (Key × Elem) → Bool
  | [] => true
  | (_, e) :: r => wfElem e && wfK r
end

mutual
theorem elemEq_refl : ∀ (e : Elem), wfElem e = true → elemEq e e = true
  | .mk c kw items addI cont props pats addP pn deps els, h => by
    rw [wfElem] at h
    simp only [Bool.and_eq_true] at h
    obtain ⟨⟨⟨⟨⟨⟨⟨⟨⟨⟨⟨⟨hk, hdp⟩, hdq⟩, hdd⟩, h1⟩, h2⟩, h3⟩, h4⟩, h5⟩, h6⟩, h7⟩, h8⟩, h9⟩ := h
    rw [elemEq]
    simp only [Elem.cls, Elem.kw, Elem.items, Elem.addItems, Elem.contains, Elem.props, Elem.patProps,
      Elem.addProps, Elem.propNames, Elem.deps, Elem.elements, Cls.sameClass_refl, Kw.eq_refl kw hk,
      eqList_refl items h1, eqOpt_refl addI h2, eqOpt_refl cont h3, eqOpt_refl addP h6, eqOpt_refl pn h7,
      eqList_refl els h9, beq_self_eq_true, Bool.and_true,
      eqProps_refl props props h4 (fun p hp => hp) hdp, eqKeyed_refl pats pats h5 (fun p hp => hp) hdq,
      eqDeps_refl deps deps h8 (fun p hp => hp) hdd]
theorem eqOpt_refl : ∀ (o : Option Elem), wfO o = true → eqOpt o o = true
  | none, _ => by rw [eqOpt]; rfl
  | some e, h => by rw [wfO] at h; rw [eqOpt]; exact elemEq_refl e h
theorem eqList_refl : ∀ (l : List Elem), wfL l = true → eqList l l = true
  | [], _ => by rw [eqList]; rfl
  | e :: es, h => by
    rw [wfL, Bool.and_eq_true] at h
    rw [eqList]
    simp only [Bool.and_eq_true]
    exact ⟨elemEq_refl e h.1, eqList_refl es h.2⟩
-- as in `pyEqObj_refl`: `l` is consumed, the lookups are in `other`
theorem eqProps_refl : ∀ (l other : List (Key × Elem)), wfK l = true → (∀ p ∈ l, p ∈ other) →
    distinct (other.map (·.1.name)) = true → eqProps l other = true
  | [], _, _, _, _ => by rw [eqProps]
  | (k, e) :: r, other, h, hsub, hd => by
    rw [wfK, Bool.and_eq_true] at h
    rw [eqProps, keyedFind_mem hd (hsub (k, e) (List.mem_cons_self ..))]
    simp only [elemEq_refl e h.1, beq_self_eq_true, Bool.and_self, Bool.true_and]
    exact eqProps_refl r other h.2 (fun p hp => hsub p (List.mem_cons_of_mem _ hp)) hd
theorem eqKeyed_refl : ∀ (l other : List (Key × Elem)), wfK l = true → (∀ p ∈ l, p ∈ other) →
    distinct (other.map (·.1.name)) = true → eqKeyed l other = true
  | [], _, _, _, _ => by rw [eqKeyed]
  | (k, e) :: r, other, h, hsub, hd => by
    rw [wfK, Bool.and_eq_true] at h
    rw [eqKeyed, keyedFind_mem hd (hsub (k, e) (List.mem_cons_self ..))]
    simp only [elemEq_refl e h.1, Bool.true_and]
    exact eqKeyed_refl r other h.2 (fun p hp => hsub p (List.mem_cons_of_mem _ hp)) hd
theorem eqDeps_refl : ∀ (l other : List (Key × Elem)), wfK l = true → (∀ p ∈ l, p ∈ other) →
    distinct (other.map (·.1.name)) = true → eqDeps l other = true
  | [], _, _, _, _ => by rw [eqDeps]
  | (k, e) :: r, other, h, hsub, hd => by
    rw [wfK, Bool.and_eq_true] at h
    rw [eqDeps, keyedFind_mem hd (hsub (k, e) (List.mem_cons_self ..))]
    have : (match k.names, k.names with
        | some l, some l' => l == l'
        | none, none => elemEq e e
        | _, _ => false) = true := by
      cases k.names with
      | none => exact elemEq_refl e h.1
      | some l => simp
    rw [Bool.and_eq_true]
    exact ⟨this, eqDeps_refl r other h.2 (fun p hp => hsub p (List.mem_cons_of_mem _ hp)) hd⟩
end

end Statham
