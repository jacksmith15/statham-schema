/-
  Inside the arithmetic domain the model never says `crash`: integers below 2^53 in the
  value and in every default, `multipleOf` a non-zero integer below 2^53.
-/
import StathamModel.Lemmas.CallVerdict
import StathamModel.Lemmas.Scalars
namespace Statham

def safeNum : Num → Bool
  | .int i => i.natAbs < 9007199254740992
  | .flt _ _ => true

def safeVal : JVal → Bool
  | .num n => safeNum n
  | .arr xs => svL xs
  | .obj kvs => svKV kvs
  | _ => true
where
  svL : List JVal → Bool
    | [] => true
    | x :: xs => safeVal x && svL xs
  svKV : List (String × JVal) → Bool
    | [] => true
    | (_, v) :: r => safeVal v && svKV r

/-- with `safeElem` below, the hypothesis of `C10_partial_call` -/
def safeArg : Arg → Bool
  | .notPassed => true
  | .val v => safeVal v

def safeMul (kw : Kw) : Bool :=
  optAll kw.multipleOf fun m =>
    match m with
    | .int i => i != 0 && i.natAbs < 9007199254740992
    | .flt _ _ => false

def safeKw (kw : Kw) : Bool := safeMul kw && optAll kw.default safeVal

mutual
def safeElem : Elem → Bool
  | .mk _ kw items addI cont props pats addP pn deps els =>
    safeKw kw && seL items && seO addI && seO cont && seK props && seK pats && seO addP && seO pn &&
      seK deps && seL els
def seO : Option Elem → Bool
  | none => true
  | some e => safeElem e
def seL : List Elem → Bool
  | [] => true
  | e :: es => safeElem e && seL es
def seK : List (Key × Elem) → Bool
  | [] => true
  | (_, e) :: r => safeElem e && seK r
end

/-- a closure that never crashes on arguments inside the domain -/
def NC (f : CallG V) : Prop := ∀ a, safeArg a = true → f a ≠ .crash

theorem safeVal_arr {xs : List JVal} (h : safeVal (.arr xs) = true) : ∀ x ∈ xs, safeVal x = true := by
  simp only [safeVal] at h
  induction xs with
  | nil => intro x hx; cases hx
  | cons a l ih =>
    simp only [safeVal.svL, Bool.and_eq_true] at h
    intro x hx
    rcases List.mem_cons.mp hx with e | e
    · subst e; exact h.1
    · exact ih h.2 x e

theorem safeVal_obj {kvs : List (String × JVal)} (h : safeVal (.obj kvs) = true) :
    ∀ kv ∈ kvs, safeVal kv.2 = true := by
  simp only [safeVal] at h
  induction kvs with
  | nil => intro x hx; cases hx
  | cons a l ih =>
    obtain ⟨k, v⟩ := a
    simp only [safeVal.svKV, Bool.and_eq_true] at h
    intro x hx
    rcases List.mem_cons.mp hx with e | e
    · subst e; exact h.1
    · exact ih h.2 x e

theorem asDouble_safe (n : Num) (h : safeNum n = true) : asDouble n ≠ none := by
  cases n with
  | int i => simp [asDouble, toDouble_small (of_decide_eq_true h)]
  | flt a b => simp [asDouble]

theorem numChecks_safe (kw : Kw) (x : Num) (h : safeMul kw = true) : numChecks kw x ≠ .crash := by
  simp only [numChecks, ne_eq, V.and_eq_crash, V.optCheck_eq_crash, V.ofBool_ne_crash, and_false, exists_false, false_or]
  rintro ⟨m, hm, hc⟩
  unfold safeMul optAll at h
  rw [hm] at h
  cases m with
  | int i =>
    simp only [Bool.and_eq_true, bne_iff_ne, ne_eq, decide_eq_true_eq] at h
    exact V.ofBool_ne_crash _ (multipleOfCheck_int x i h.1 h.2 ▸ hc)
  | flt _ _ => simp at h

/-- all closures of an element stay inside the domain -/
structure SubNC (sub : VSub) : Prop where
  items : ∀ f ∈ sub.items, NC f
  addItems : ∀ p, sub.addItems = some p → NC p.2
  contains : ∀ f, sub.contains = some f → NC f
  props : ∀ p ∈ sub.props, NC p.2.2
  patProps : ∀ p ∈ sub.patProps, NC p.2
  addProps : ∀ f, sub.addProps = some f → NC f
  propNames : ∀ f, sub.propNames = some f → NC f
  deps : ∀ p ∈ sub.deps, NC p.2
  elements : ∀ f ∈ sub.elements, NC f

theorem NC_allOfV {fs : List (CallG V)} (h : ∀ f ∈ fs, NC f) : NC (allOfV fs) := by
  intro a ha
  cases a with
  | notPassed => simp [allOfV]
  | val v =>
    simp only [allOfV]
    apply attemptV_ne_crash
    intro x hx
    obtain ⟨f, hf, rfl⟩ := List.mem_map.mp hx
    exact h f hf _ ha

theorem vAlg_closed_NC : vAlg.Closed NC where
  trivial := fun _ _ => by simp [vAlg, trivialV]
  nothing := fun a _ => by cases a <;> simp [vAlg, nothingV]
  allOf := fun _ => NC_allOfV

theorem itemsCallFrom_nc {kw : Kw} {sub : VSub} (S : SubNC sub) (xs : List JVal) (idx : Nat)
    (hxs : ∀ x ∈ xs, safeVal x = true) : ∀ v ∈ itemsCallFrom vAlg kw sub idx xs, v ≠ .crash := by
  intro v hv
  rw [itemsCallFrom_eq] at hv
  obtain ⟨i, hi, rfl⟩ := List.mem_mapIdx.mp hv
  exact itemCall_closed vAlg_closed_NC S.items S.addItems _ _ (hxs _ (List.getElem_mem hi))

theorem propsOuts_nc {env : Env} {kw : Kw} {sub : VSub} (S : SubNC sub) (kvs : List (String × JVal))
    (hkvs : ∀ kv ∈ kvs, safeVal kv.2 = true) : ∀ o ∈ propsOuts vAlg env kw sub kvs, o.2 ≠ .crash := by
  intro o ho
  unfold propsOuts at ho
  obtain ⟨k, _, rfl⟩ := List.mem_map.mp ho
  obtain ⟨f, hf, e⟩ := resolveCall_closed (kw := kw) vAlg_closed_NC S.props S.patProps S.addProps env k (argOf kvs k)
  rw [e]
  apply hf
  unfold argOf
  cases hl : JVal.lookup k kvs with
  | none => rfl
  | some x =>
    simp only [safeArg]
    have : (k, x) ∈ kvs := lookup_some_mem hl
    exact hkvs (k, x) this

theorem containsCheck_nc {sub : VSub} (S : SubNC sub) {xs : List JVal} (hxs : ∀ x ∈ xs, safeVal x = true) :
    containsCheck id sub xs ≠ .crash := by
  rw [containsCheck, ne_eq, V.optCheck_eq_crash]
  rintro ⟨f, hf, hc⟩
  exact V.any_ne_crash (fun x hx => S.contains f hf (.val x) (hxs x hx)) hc

theorem propNamesCheck_nc {sub : VSub} (S : SubNC sub) (kvs : List (String × JVal)) :
    propNamesCheck id sub kvs ≠ .crash := by
  rw [propNamesCheck, ne_eq, V.optCheck_eq_crash]
  rintro ⟨f, hf, hc⟩
  exact V.all_ne_crash (fun kv _ => S.propNames f hf _ rfl) hc

theorem depElemsCheck_nc {sub : VSub} (S : SubNC sub) {kvs : List (String × JVal)} (hv : safeVal (.obj kvs) = true) :
    depElemsCheck id sub kvs ≠ .crash := by
  refine V.all_ne_crash fun d hd => ?_
  split
  · nofun
  · exact S.deps d hd _ hv

/-- the validators are conjunctions of Booleans, except `multipleOf` and the three that call a sub-element (`contains`,
    `propertyNames`, schema-form `dependencies`) -/
theorem validators_nc {env : Env} {c : Cls} {kw : Kw} {sub : VSub} (hk : safeMul kw = true) (S : SubNC sub)
    (v : JVal) (hv : safeVal v = true) : validators id env c kw sub v ≠ .crash := by
  unfold validators
  refine V.and_ne_crash (V.ofBool_ne_crash _)
    (V.and_ne_crash (literalChecks_ofBool kw v ▸ V.ofBool_ne_crash _) ?_)
  cases v with
  | num x => exact numChecks_safe kw x hk
  | str s => exact (strChecks_ofBool env kw s ▸ V.ofBool_ne_crash _ : strChecks env kw s ≠ .crash)
  | arr xs =>
    exact V.and_ne_crash (arrChecks_ofBool kw xs ▸ V.ofBool_ne_crash _ : arrChecks kw xs ≠ .crash)
      (V.and_ne_crash (additionalItemsCheck_ne_crash kw sub xs) (containsCheck_nc S (safeVal_arr hv)))
  | obj kvs =>
    refine V.and_ne_crash ?_ (V.and_ne_crash (propNamesCheck_nc S kvs)
      (V.and_ne_crash (depElemsCheck_nc S hv) (additionalPropsCheck_ne_crash env _ kw sub kvs)))
    rw [objChecks_eq kw _ _ kvs kw.asSKw rfl rfl, V.ofBool_and, V.ofBool_and]
    exact V.ofBool_ne_crash _
  | null | bool b => nofun

theorem notV_ne_crash {x : V} (h : x ≠ .crash) : notV x ≠ .crash := by
  cases x with
  | crash => exact absurd rfl h
  | pass | reject => nofun

/-- `construct` crashes only where a sub-element does, or on an integer no double holds -/
theorem constructV_nc {env : Env} {c : Cls} {kw : Kw} {sub : VSub} (S : SubNC sub)
    (v : JVal) (hv : safeVal v = true) : constructV env c kw sub v ≠ .crash := by
  have hel : ∀ x ∈ sub.elements.map (fun f => f (.val v)), x ≠ .crash := by
    intro x hx
    obtain ⟨f, hf, rfl⟩ := List.mem_map.mp hx
    exact S.elements f hf (.val v) hv
  unfold constructV
  -- by class, in the order of the definition: `Not`; `AnyOf`, `OneOf`, `AllOf`; `Number`; a class of objects; the rest
  split
  · split
    · exact notV_ne_crash (hel _ (by simp [*]))
    · nofun
  · exact attemptV_ne_crash hel
  · exact attemptV_ne_crash hel
  · exact attemptV_ne_crash hel
  · split
    · split
      · exact absurd ‹_› (asDouble_safe _ hv)
      · nofun
    · nofun
  · split
    · exact V.all_ne_crash (propsOuts_nc S _ (safeVal_obj hv))
    · nofun
  · split
    · exact V.all_ne_crash (itemsCallFrom_nc S _ 0 (safeVal_arr hv))
    · exact V.all_ne_crash (propsOuts_nc S _ (safeVal_obj hv))
    · nofun

theorem createV_nc {env : Env} {c : Cls} {kw : Kw} {sub : VSub} (hk : safeMul kw = true) (S : SubNC sub)
    (v : JVal) (hv : safeVal v = true) : createV env c kw sub v ≠ .crash :=
  V.and_ne_crash (validators_nc hk S v hv) (constructV_nc S v hv)

theorem accCore_nc {env : Env} {c : Cls} {kw : Kw} {sub : VSub} (hk : safeKw kw = true) (S : SubNC sub) :
    NC (accCore env c kw sub) := by
  unfold safeKw at hk
  simp only [Bool.and_eq_true] at hk
  intro a ha
  unfold accCore
  cases a with
  | val v => exact createV_nc hk.1 S v ha
  | notPassed =>
    simp only
    cases hd : kw.default with
    | none => simp
    | some d =>
      simp only
      have hds : safeVal d = true := by simpa [optAll, hd] using hk.2
      have := createV_nc (env := env) (c := c) hk.1 S d hds
      cases hc : createV env c kw sub d <;> simp_all

mutual
theorem acc_nc (env : Env) : ∀ (e : Elem), safeElem e = true → NC (e.acc env)
  | .mk c kw items addI cont props pats addP pn deps els, h => by
    rw [safeElem] at h
    simp only [Bool.and_eq_true] at h
    obtain ⟨⟨⟨⟨⟨⟨⟨⟨⟨hkw, h1⟩, h2⟩, h3⟩, h4⟩, h5⟩, h6⟩, h7⟩, h8⟩, h9⟩ := h
    intro a ha
    rw [Elem.acc]
    exact accCore_nc hkw
      { items := accList_nc env items h1
        addItems := accAddl_nc env addI h2
        contains := accOpt_nc env cont h3
        props := accProps_nc env props h4
        patProps := accKeyed_nc env pats h5
        addProps := accOpt_nc env addP h6
        propNames := accOpt_nc env pn h7
        deps := accKeyed_nc env deps h8
        elements := accList_nc env els h9 } a ha
theorem accOpt_nc (env : Env) : ∀ (o : Option Elem), seO o = true → ∀ f, accOpt env o = some f → NC f
  | none, _, f, hf => by rw [accOpt] at hf; cases hf
  | some e, h, f, hf => by
    rw [accOpt] at hf
    rw [seO] at h
    cases hf
    exact acc_nc env e h
theorem accAddl_nc (env : Env) : ∀ (o : Option Elem), seO o = true → ∀ p, accAddl env o = some p → NC p.2
  | none, _, p, hp => by rw [accAddl] at hp; cases hp
  | some e, h, p, hp => by
    rw [accAddl] at hp
    rw [seO] at h
    cases hp
    exact acc_nc env e h
theorem accList_nc (env : Env) : ∀ (l : List Elem), seL l = true → ∀ f ∈ accList env l, NC f
  | [], _, f, hf => by rw [accList] at hf; cases hf
  | e :: es, h, f, hf => by
    rw [accList] at hf
    rw [seL, Bool.and_eq_true] at h
    rcases List.mem_cons.mp hf with e1 | e1
    · rw [e1]; exact acc_nc env e h.1
    · exact accList_nc env es h.2 f e1
theorem accKeyed_nc (env : Env) : ∀ (l : List (Key × Elem)), seK l = true → ∀ p ∈ accKeyed env l, NC p.2
  | [], _, p, hp => by rw [accKeyed] at hp; cases hp
  | (k, e) :: r, h, p, hp => by
    rw [accKeyed] at hp
    rw [seK, Bool.and_eq_true] at h
    rcases List.mem_cons.mp hp with e1 | e1
    · rw [e1]; exact acc_nc env e h.1
    · exact accKeyed_nc env r h.2 p e1
theorem accProps_nc (env : Env) : ∀ (l : List (Key × Elem)), seK l = true → ∀ p ∈ accProps env l, NC p.2.2
  | [], _, p, hp => by rw [accProps] at hp; cases hp
  | (k, e) :: r, h, p, hp => by
    rw [accProps] at hp
    rw [seK, Bool.and_eq_true] at h
    rcases List.mem_cons.mp hp with e1 | e1
    · rw [e1]; exact acc_nc env e h.1
    · exact accProps_nc env r h.2 p e1
end

end Statham
