/-
  `_keyword_filter` as a mask: `filterKw al` / `mkElem c al` keep the arguments whose names are in `al` and put the
  constructor default elsewhere.  Everything the proofs need of a concrete signature is which names it holds.
-/
import StathamModel.ToSchema
import StathamModel.Good
namespace Statham

theorem keep_mem {α} {al : List String} {n : String} (h : n ∈ al) (v d : α) : keep al n v d = v := by
  unfold keep; rw [if_pos (List.contains_iff_mem.mpr h)]

theorem keep_not_mem {α} {al : List String} {n : String} (h : n ∉ al) (v d : α) : keep al n v d = d := by
  unfold keep; rw [if_neg (mt List.contains_iff_mem.mp h)]

theorem keep_keep {α} (al : List String) (n : String) (v d : α) : keep al n (keep al n v d) d = keep al n v d := by
  unfold keep; split <;> rfl

theorem keep_fix {α} {f : α → α} {v d : α} (hv : f v = v) (hd : f d = d) (al : List String) (n : String) :
    f (keep al n v d) = keep al n v d := by
  unfold keep; split <;> assumption

theorem filterKw_idem (al : List String) (kw : Kw) : filterKw al (filterKw al kw) = filterKw al kw := by
  simp only [filterKw, keep_keep]

/-- a keyword outside the signature does not reach the element -/
theorem filterKw_required_hasProps {al : List String} (hr : "required" ∉ al) (hp : "properties" ∉ al) (kw : Kw) (r : Option (List String)) (b : Bool) :
    filterKw al { kw with required := r, hasProps := b } = filterKw al kw := by
  simp only [filterKw, keep_not_mem hr, keep_not_mem hp]

theorem Elem.withDefault_default (e : Elem) (d : Option JVal) : (e.withDefault d).kw.default = d := by
  cases e; rfl

/-- a signature that takes `default` passes it on to the `default` of what is built and nowhere else -/
theorem mkElem_withDefault (c : Cls) (al : List String) (kw : Kw) (p : Parts) (d : Option JVal) (h : "default" ∈ al) :
    mkElem c al { kw with default := d } p = (mkElem c al kw p).withDefault d := by
  simp only [mkElem, filterKw, Elem.withDefault, keep_mem h]

/-- the keywords whose arguments are elements -/
def kidKeywords : List String :=
  ["items", "additionalItems", "contains", "properties", "patternProperties", "additionalProperties", "propertyNames",
   "dependencies"]

/-- a signature without element arguments builds a leaf -/
theorem mkElem_leaf {al : List String} (h : ∀ n ∈ kidKeywords, n ∉ al) (c : Cls) (kw : Kw) (p : Parts) :
    mkElem c al kw p = Elem.leaf c (filterKw al kw) := by
  simp only [kidKeywords, List.forall_mem_cons, List.not_mem_nil, false_imp_iff, implies_true, and_true] at h
  simp only [mkElem, Elem.leaf, keep_not_mem, h, not_false_eq_true]

/-- a signature with every name of `Element`'s (they are the names `filterKw` and `mkElem` ask about) lets everything
    through -/
theorem mkElem_full {al : List String} (h : Gen.Param.names Gen.sigElement ⊆ al) (c : Cls) (kw : Kw) (p : Parts) :
    mkElem c al kw p = .mk c kw p.items p.addItems p.contains p.props p.patProps p.addProps p.propNames p.deps [] := by
  simp only [Gen.Param.names, Gen.sigElement, List.map, List.cons_subset, List.nil_subset, and_true] at h
  simp only [mkElem, filterKw, keep_mem, h]

theorem mkElem_element (kw : Kw) (p : Parts) :
    mkElem .element (Gen.Param.names Gen.sigElement) kw p =
      .mk .element kw p.items p.addItems p.contains p.props p.patProps p.addProps p.propNames p.deps [] :=
  mkElem_full (List.Subset.refl _) _ kw p

theorem mkObject_eq (cx : PCtx) (k : SKw) (kw : Kw) (p : Parts) :
    mkObject cx k kw p =
      .mk (.object (className k))
        { default := kw.default, const := kw.const, enum := kw.enum, hasProps := true,
          hasPatProps := kw.hasPatProps, addPropsB := kw.addPropsB, minProperties := kw.minProperties,
          maxProperties := kw.maxProperties, hasDeps := kw.hasDeps, description := kw.description }
        [] none none (withSynthetic cx (k.required.getD []) p.props) p.patProps p.addProps p.propNames p.deps [] := by
  simp [mkObject, mkElem, filterKw, keep, objectAllowed, Gen.objectClassArgs]

def arrKw (kw : Kw) (ik : ItemsKind) : Kw :=
  { default := kw.default, const := kw.const, enum := kw.enum, itemsKind := ik, addItemsB := kw.addItemsB,
    minItems := kw.minItems, maxItems := kw.maxItems, uniqueItems := kw.uniqueItems, description := kw.description }

theorem mkElem_array (kw : Kw) (p : Parts) :
    mkElem .array (Gen.Param.names Gen.sigArray) kw p =
      .mk .array (arrKw kw kw.itemsKind) p.items p.addItems p.contains [] [] none none [] [] := by
  simp [mkElem, filterKw, keep, Gen.sigArray, Gen.Param.names, arrKw]

theorem mkArray_none (kw : Kw) (p : Parts) (h : kw.itemsKind = .none) :
    mkArray kw p = .mk .array (arrKw kw .single) [Elem.trivial] p.addItems p.contains [] [] none none [] [] := by
  unfold mkArray
  simp only [h]
  exact mkElem_array _ _

theorem mkArray_some (kw : Kw) (p : Parts) (h : kw.itemsKind ≠ .none) :
    mkArray kw p = .mk .array (arrKw kw kw.itemsKind) p.items p.addItems p.contains [] [] none none [] [] := by
  unfold mkArray
  split
  · contradiction
  · exact mkElem_array kw p

theorem assembleBase_none {k : SKw} (h : k.type = .none) (cx : PCtx) (p : Parts) (d : Option JVal) :
    assembleBase cx k p d = mkElem .element (Gen.Param.names Gen.sigElement) (baseKw k p d) p := by
  unfold assembleBase; rw [h]

theorem assembleBase_single {k : SKw} {t : String} (h : k.type = .single t) (cx : PCtx) (p : Parts) (d : Option JVal) :
    assembleBase cx k p d = mkTyped cx t k p d := by
  unfold assembleBase; rw [h]

/-- the classes whose members stand under a keyword of their own -/
def isComposition (c : Cls) : Bool := c == .anyOf || c == .oneOf || c == .allOf || c == .not

/-- what the proofs need of one row of `typedLeaf`: the class it names, written back under the same type name, with a
    signature that takes `default` and no element, `required` or `properties`.  Its users are ParseErr (C10), which reads
    `leaf`, `notObject` and `notArray` only, and the round trip of ParseNF. -/
structure LeafSig (t : String) (c : Cls) (al : List String) : Prop where
  leaf : typedLeaf t = some (c, al)
  notObject : (t == "object") = false
  notArray : (t == "array") = false
  type : typeSpecOf c = .single t
  plain : isComposition c = false
  cls : c ≠ .element ∧ c ≠ .nothing
  default : "default" ∈ al
  noKids : ∀ n ∈ kidKeywords, n ∉ al
  noRequired : "required" ∉ al

theorem LeafSig.noProps {t c al} (L : LeafSig t c al) : "properties" ∉ al :=
  L.noKids _ (by simp only [kidKeywords, List.mem_cons, true_or, or_true])

theorem mkTyped_leaf {t c al} (L : LeafSig t c al) (cx : PCtx) (k : SKw) (p : Parts) (d : Option JVal) :
    mkTyped cx t k p d = mkElem c al (baseKw k p d) p := by
  unfold mkTyped
  simp only [L.notObject, L.notArray, L.leaf, Bool.false_eq_true, if_false]

theorem mkTyped_array (cx : PCtx) (k : SKw) (p : Parts) (d : Option JVal) :
    mkTyped cx "array" k p d = mkArray (baseKw k p d) p := rfl

theorem mkTyped_object (cx : PCtx) (k : SKw) (p : Parts) (d : Option JVal) :
    mkTyped cx "object" k p d = mkObject cx k (baseKw k p d) p := rfl

theorem leafSig_string : LeafSig "string" .string (Gen.Param.names Gen.sigString) := by
  constructor <;> decide +kernel
theorem leafSig_integer : LeafSig "integer" .integer (Gen.Param.names Gen.sigNumeric) := by
  constructor <;> decide +kernel
theorem leafSig_number : LeafSig "number" .number (Gen.Param.names Gen.sigNumeric) := by
  constructor <;> decide +kernel
theorem leafSig_boolean : LeafSig "boolean" .boolean (Gen.Param.names Gen.sigBoolean) := by
  constructor <;> decide +kernel
theorem leafSig_null : LeafSig "null" .null (Gen.Param.names Gen.sigNull) := by
  constructor <;> decide +kernel

/-- the seven type names: five rows of the leaf table, `array`, `object` -/
theorem knownTypes_cases {t : String} (h : t ∈ knownTypes) :
    (∃ c al, LeafSig t c al) ∨ t = "array" ∨ t = "object" := by
  simp only [knownTypes, List.mem_cons, List.mem_nil_iff, or_false] at h
  rcases h with rfl | rfl | rfl | rfl | rfl | rfl | rfl
  · exact .inl ⟨_, _, leafSig_string⟩
  · exact .inl ⟨_, _, leafSig_integer⟩
  · exact .inl ⟨_, _, leafSig_number⟩
  · exact .inl ⟨_, _, leafSig_boolean⟩
  · exact .inl ⟨_, _, leafSig_null⟩
  · exact .inr (.inl rfl)
  · exact .inr (.inr rfl)

end Statham
