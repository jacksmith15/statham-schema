/-
  C14 — concurrent validation against shared models equals sequential validation.

  PARTIAL: the theorem is about interleavings of the atomic shared-state steps of calls (the model of
  Threads.lean); that the library's calls consist of such steps only is carried by the write-site
  inventory tie (C08) and by the controlled-scheduler correspondence; CPython's actual preemption
  granularity, the GIL and C-level atomicity are not modelled.
-/
import StathamModel.Threads
import StathamModel.Props.C08
namespace Statham.C14
open Statham

def Noop (s : Shared) (a : Act) : Prop := (a.run s).1 = s

theorem read_noop (s : Shared) (p : Nat) : Noop s (.read p) := rfl

/-- in a state where every step of every thread is a no-op, any execution order leaves the state unchanged and
    every step observes what it would observe in that state -/
theorem trace_fixed (s : Shared) (tr : Trace) (h : ∀ p ∈ tr, Noop s p.2) :
    runTrace s tr = (s, tr.map fun p => (p.1, (p.2.run s).2)) := by
  induction tr with
  | nil => rfl
  | cons p r ih =>
    obtain ⟨t, a⟩ := p
    have h0 : (a.run s).1 = s := h (t, a) (List.mem_cons_self ..)
    have ih' := ih fun q hq => h q (List.mem_cons_of_mem _ hq)
    simp only [runTrace, List.map_cons]
    rw [show a.run s = (s, (a.run s).2) from Prod.ext h0 rfl]
    simp only
    rw [ih']

theorem obsOf_map (s : Shared) (tr : Trace) (t : Nat) :
    obsOf (tr.map fun p => (p.1, (p.2.run s).2)) t = (tr.ofThread t).map fun a => (a.run s).2 := by
  simp only [obsOf, Trace.ofThread, List.filter_map, List.map_map, Function.comp_def]

/-- **Every interleaving equals the sequential runs.**  Let the shared `_Property` records be in a state `s` in
    which each step of each thread's program is a no-op (a bound tree, see `bind_noop_bound`).  Then for *every*
    execution `tr` whose per-thread projections are the threads' programs — any number of threads, any
    preemption points — the shared state afterwards is `s` (the tree is unchanged) and each thread observed
    exactly what it observes when it runs alone from `s`. -/
theorem C14_interleavings (s : Shared) (progs : Nat → List Act) (tr : Trace)
    (hproj : ∀ t, tr.ofThread t = progs t)
    (hnoop : ∀ t, ∀ a ∈ progs t, Noop s a) :
    (runTrace s tr).1 = s ∧ ∀ t, obsOf (runTrace s tr).2 t = (runAlone s (progs t)).2 ∧ (runAlone s (progs t)).1 = s := by
  have hall : ∀ p ∈ tr, Noop s p.2 := fun p hp =>
    hnoop p.1 p.2 (hproj p.1 ▸ List.mem_map.mpr ⟨p, List.mem_filter.mpr ⟨hp, by simp⟩, rfl⟩)
  rw [trace_fixed s tr hall]
  refine ⟨rfl, fun t => ?_⟩
  have halone : ∀ q ∈ (progs t).map (fun a => ((0 : Nat), a)), Noop s q.2 := by
    intro q hq
    obtain ⟨a, ha, rfl⟩ := List.mem_map.mp hq
    exact hnoop t a ha
  unfold runAlone
  rw [trace_fixed s _ halone]
  simp only [List.map_map]
  constructor
  · rw [obsOf_map, hproj t]
    simp [Function.comp_def]
  · trivial

/-- property `p` is bound under `name` in element `parent`, the way `_PropertyDict` leaves it at construction -/
def BoundAt (s : Shared) (p : Nat) (name : String) (parent : Nat) : Prop :=
  ∃ ps src, s[p]? = some ps ∧ ps.name = some name ∧ ps.parent = some parent ∧ ps.source = some src ∧ src ≠ ""

theorem bind_noop_bound (s : Shared) (p : Nat) (name : String) (parent : Nat) (h : BoundAt s p name parent) :
    Noop s (.bind p name parent) := by
  obtain ⟨ps, src, hp, hn, hpar, hs, hne⟩ := h
  unfold Noop
  simp only [Act.run, hp]
  have : ps.bind name parent = ps := by
    cases ps with
    | mk n so pa =>
      simp only at hn hpar hs
      subst hn hpar hs
      unfold PState.bind
      by_cases e : name = ""
      · simp [e]
      · simp [e, hne]
  rw [this]
  obtain ⟨hlt, hget⟩ := List.getElem?_eq_some_iff.mp hp
  rw [← hget]
  exact List.set_getElem_self hlt

/-- the first bind of a fresh `_Property` establishes the bound state (so every later one is a no-op) -/
theorem bind_establishes (s : Shared) (p : Nat) (name : String) (parent : Nat) (hn : name ≠ "")
    (hp : p < s.length) : BoundAt ((Act.bind p name parent).run s).1 p name parent := by
  have : s[p]? = some s[p] := List.getElem?_eq_getElem hp
  simp only [Act.run, this]
  have hsrc : ∃ src, (s[p].bind name parent).source = some src ∧ src ≠ "" := by
    unfold PState.bind
    simp only [hn, if_false]
    cases s[p].source with
    | none => exact ⟨name, rfl, hn⟩
    | some x =>
      by_cases e : x = ""
      · exact ⟨name, by simp [e], hn⟩
      · exact ⟨x, by simp [e], e⟩
  obtain ⟨src, h1, h2⟩ := hsrc
  exact ⟨s[p].bind name parent, src, by simp [hp], by simp [PState.bind, hn], by simp [PState.bind, hn], h1, h2⟩

/-- the calls' shared writes are binds (by C08's inventory of write sites) -/
theorem shared_writes_are_binds :
    ((C08.accounted.filter fun p => C08.onCallPath p.1).filter fun p =>
        !(p.2 == .localContainer || p.2 == .freshResult || p.2 == .construction || p.2 == .registry)).all
      (fun p => p.2 == .bind) = true := by
  have h := C08.callPath_harmless
  simp only [List.all_eq_true, List.mem_filter] at h ⊢
  intro p ⟨hp, hn⟩
  have := h p hp
  -- role by role: harmless (`this`) and none of the four excluded ones (`hn`) leaves `bind`
  revert hn this
  cases p.2 <;> decide

/-! ### What the hypothesis excludes: one `_Property` object placed under two names -/

/-- property 0 sits under "a" in element 1 and is also placed under "b" in element 2 -/
def sharedWrapper : Shared := [{ name := some "a", source := some "a", parent := some 1 }]
def progA : List Act := [.bind 0 "a" 1, .read 0]
def progB : List Act := [.bind 0 "b" 2, .read 0]
/-- A binds, B binds, A reads: A sees B's name -/
def badTrace : Trace := [(0, .bind 0 "a" 1), (1, .bind 0 "b" 2), (0, .read 0), (1, .read 0)]

theorem counter_shared_wrapper :
    badTrace.ofThread 0 = progA ∧ badTrace.ofThread 1 = progB ∧
    obsOf (runTrace sharedWrapper badTrace).2 0 ≠ (runAlone sharedWrapper progA).2 := by decide +kernel

/-- non-vacuity of `BoundAt`: a state with two properties bound under one element, one of them renamed -/
def boundTree : Shared := [{ name := some "a", source := some "a", parent := some 1 }, { name := some "b", source := some "src", parent := some 1 }]
example : BoundAt boundTree 0 "a" 1 ∧ BoundAt boundTree 1 "b" 1 :=
  ⟨⟨_, "a", rfl, rfl, rfl, rfl, by decide⟩, ⟨_, "src", rfl, rfl, rfl, rfl, by decide⟩⟩

end Statham.C14
