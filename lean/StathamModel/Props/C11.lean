/-
  C11 — class declaration order is a complete topological order; cycles are refused.

  `ordererGraph` (Orderer.lean) models `orderer`: the table of every class's descendant classes, then rounds that emit
  the first class with nothing left to wait for and strike it everywhere.  Proved: the answer lists a class after all
  its descendant classes and never twice (`C11_order_sound`; on the element trees themselves, through every keyword
  position, `C11_declared_after_dependencies`); a class among its own descendants is refused (`cycle_refused`); every
  class is declared if the table is closed (`C11_complete`).  Not proved: that the table of an acyclic graph is closed;
  it is a hypothesis of `C11_complete`, met by the example below, and the model is compared with the real orderer on
  every generated graph.
-/
import StathamModel.Orderer
import StathamModel.Lemmas.ListAux
import StathamModel.Lemmas.OrdererComplete
import StathamModel.Lemmas.TreeGraph
-- imported so that building and auditing this module re-checks the tie
import StathamModel.Tie
namespace Statham.C11
open Statham

theorem popNext_ready {table : List (String × List String)} {n : String} {table' : List (String × List String)}
    (h : popNext table = some (n, table')) : (n, []) ∈ table :=
  (popNext_table h).1

theorem popNext_strikes {table : List (String × List String)} {n : String} {table' : List (String × List String)}
    (h : popNext table = some (n, table')) : (∀ e ∈ table', e.1 ≠ n) ∧ (∀ e ∈ table', n ∉ e.2) := by
  obtain ⟨_, rfl⟩ := popNext_table h
  constructor
  · intro x hx
    obtain ⟨y, hy, rfl⟩ := List.mem_map.mp hx
    simpa using (List.mem_filter.mp hy).2
  · intro x hx
    obtain ⟨y, hy, rfl⟩ := List.mem_map.mp hx
    simp

/-- each emission shrinks the table by at least one entry, so `table.length` rounds suffice (termination) -/
theorem popNext_shrinks {table : List (String × List String)} {n : String} {table' : List (String × List String)}
    (h : popNext table = some (n, table')) : table'.length < table.length := by
  obtain ⟨hm, rfl⟩ := popNext_table h
  rw [List.length_map]
  exact List.length_filter_lt_length_iff_exists.mpr ⟨(n, []), hm, by simp⟩

/-- a class among its own computed descendants is refused -/
theorem cycle_refused (g : ClassGraph) (h : (depTable g).any (fun e => e.2.contains e.1) = true) :
    ordererGraph g = .error .unresolvable := by
  unfold ordererGraph
  simp only [h, if_true]

theorem emitAll_induct {Q : List (String × List String) → List String → Prop} (nil : ∀ t, Q t [])
    (cons : ∀ t n t' rest, popNext t = some (n, t') → Q t' rest → Q t (n :: rest)) :
    ∀ fuel t, Q t (emitAll fuel t).1
  | 0, t => nil t
  | fuel + 1, t => by
    unfold emitAll
    cases hp : popNext t with
    | none => exact nil t
    | some p => exact cons t p.1 p.2 _ hp (emitAll_induct nil cons fuel p.2)

/-- **Every class is declared after everything it depends on**: if `n` is emitted at position `i`, it had an
    entry in the table and every member of that entry's dependency list was emitted before position `i`. -/
theorem emitAll_sound : ∀ (fuel : Nat) (table : List (String × List String)) (i : Nat) (n : String),
    (emitAll fuel table).1[i]? = some n →
    ∃ deps, (n, deps) ∈ table ∧ ∀ d ∈ deps, d ∈ (emitAll fuel table).1.take i := by
  refine emitAll_induct (Q := fun table out => ∀ i n, out[i]? = some n → ∃ deps, (n, deps) ∈ table ∧ ∀ d ∈ deps, d ∈ out.take i)
    (fun _ i n h => by simp at h) fun table m table' rest hp ih i n h => ?_
  cases i with
  | zero =>
    simp only [List.getElem?_cons_zero, Option.some.injEq] at h
    subst h
    exact ⟨[], popNext_ready hp, by simp⟩
  | succ i =>
    simp only [List.getElem?_cons_succ] at h
    obtain ⟨deps', hmem, hdeps⟩ := ih i n h
    rw [(popNext_table hp).2] at hmem
    obtain ⟨x, hx, hxe⟩ := List.mem_map.mp hmem
    simp only [Prod.mk.injEq] at hxe
    refine ⟨x.2, by rw [← hxe.1]; exact (List.mem_filter.mp hx).1, fun d hd => ?_⟩
    by_cases e : d = m
    · subst e; simp
    · have : d ∈ deps' := by
        rw [← hxe.2]
        exact List.mem_filter.mpr ⟨hd, by simpa using e⟩
      simp only [List.take_succ_cons, List.mem_cons]
      exact Or.inr (hdeps d this)

/-- everything emitted was a key of the table, and nothing is emitted twice (one induction: a repetition would be a
    key of the table it was struck from) -/
theorem emitAll_keys_nodup : ∀ (fuel : Nat) (table : List (String × List String)),
    (∀ n ∈ (emitAll fuel table).1, n ∈ table.map (·.1)) ∧ (emitAll fuel table).1.Nodup := by
  refine emitAll_induct (Q := fun table out => (∀ n ∈ out, n ∈ table.map (·.1)) ∧ out.Nodup)
    (fun _ => ⟨fun _ h => (nomatch h), List.nodup_nil⟩) fun table m table' rest hp ih => ?_
  have hkeys : ∀ n ∈ rest, ∃ x ∈ table', x.1 = n := fun n h => List.mem_map.mp (ih.1 n h)
  constructor
  · intro n h
    rcases List.mem_cons.mp h with rfl | h
    · exact List.mem_map.mpr ⟨_, popNext_ready hp, rfl⟩
    · obtain ⟨y, hy, rfl⟩ := hkeys n h
      obtain ⟨x, hx, _, rfl⟩ := mem_popNext_table hp hy
      exact List.mem_map.mpr ⟨x, hx, rfl⟩
  · refine List.nodup_cons.mpr ⟨fun hm => ?_, ih.2⟩
    obtain ⟨y, hy, hye⟩ := hkeys m hm
    exact (popNext_strikes hp).1 y hy hye

theorem emitAll_nodup : ∀ (fuel : Nat) (table : List (String × List String)), (emitAll fuel table).1.Nodup :=
  fun fuel table => (emitAll_keys_nodup fuel table).2

/-- **The orderer's answer is a topological order of the class graph**: a class appears after all of its
    descendant classes, and never twice. -/
theorem C11_order_sound (g : ClassGraph) (out : List String) (h : ordererGraph g = .ok out) :
    out.Nodup ∧ ∀ (i : Nat) (n : String), out[i]? = some n → n ∈ g.order ∧ ∀ d ∈ descendantsOf g n, d ∈ out.take i := by
  unfold ordererGraph at h
  by_cases hc : (depTable g).any (fun e => e.2.contains e.1) = true
  · rw [if_pos hc] at h; cases h
  · rw [if_neg hc] at h
    simp only [Except.ok.injEq] at h
    subst h
    refine ⟨emitAll_nodup _ _, fun i n hi => ?_⟩
    obtain ⟨deps, hmem, hdeps⟩ := emitAll_sound _ _ i n hi
    unfold depTable at hmem
    obtain ⟨x, hx, hxe⟩ := List.mem_map.mp hmem
    simp only [Prod.mk.injEq] at hxe
    refine ⟨by rw [← hxe.1]; exact mem_removeDups.mp hx, fun d hd => hdeps d ?_⟩
    rw [← hxe.2, hxe.1]; exact hd

/-- **The order is complete**: when the dependency table is closed (`ClosedTable`: distinct keys; every list duplicate-free,
    inside the keys, without its own key, and holding the lists of its members), the orderer refuses nothing and declares every
    class of the graph exactly once.  That `depTable g` is closed whenever `g` is acyclic is not proved: it stays a
    hypothesis here. -/
theorem C11_complete (g : ClassGraph) (h : ClosedTable (depTable g)) :
    ∃ out, ordererGraph g = .ok out ∧ out.Nodup ∧ ∀ n, n ∈ out ↔ n ∈ g.order := by
  have hnocycle : (depTable g).any (fun e => e.2.contains e.1) = false := by
    rw [Bool.eq_false_iff]
    intro hc
    obtain ⟨e, he, hce⟩ := List.any_eq_true.mp hc
    exact h.irrefl e he (by simpa using hce)
  refine ⟨(emitAll (depTable g).length (depTable g)).1, ?_, emitAll_nodup _ _, fun n => ?_⟩
  · unfold ordererGraph
    rw [if_neg (by rw [hnocycle]; exact Bool.false_ne_true)]
  · have hcomp := emitAll_complete (depTable g).length (depTable g) h (Nat.le_refl _)
    have hkeys := (emitAll_keys_nodup (depTable g).length (depTable g)).1
    have hsub := subset_of_nodup_length (emitAll_nodup _ _) hkeys (by rw [hcomp.2, List.length_map])
    have hkeyorder : ∀ x, x ∈ (depTable g).map (·.1) ↔ x ∈ g.order := by
      intro x
      unfold depTable
      simp only [List.map_map, Function.comp_def, List.map_id', mem_removeDups]
    constructor
    · intro hn; exact (hkeyorder n).mp (hkeys n hn)
    · intro hn; exact hsub ((hkeyorder n).mpr hn)

/-- **declared after every object class below it**, stated on the tree itself rather than through the model's computed
    `descendantsOf` (whose search fuel is shown to suffice, `descendantsOf_direct`): if the orderer answers `order`, the class
    found under the `i`-th name has every object class among its descendants — through any keyword position, at any depth —
    declared strictly earlier -/
theorem C11_declared_after_dependencies (els : List Elem) (order : List String) (h : ordererTree els = .ok order)
    (i : Nat) (n : String) (hi : order[i]? = some n) (c : Elem)
    (hc : (objectClasses els).find? (fun c => objName c.cls == n) = some c)
    (d : Elem) (hd : d ∈ descendants c) (ho : isObjectClass d.cls = true) :
    objName d.cls ∈ order.take i := by
  refine ((C11_order_sound (treeGraph els) order h).2 i n hi).2 (objName d.cls)
    (descendantsOf_direct _ (treeGraph_bounded els) n _ ?_)
  simp only [treeGraph, hc]
  rw [mem_removeDups]
  exact List.mem_map.mpr ⟨d, List.mem_filter.mpr ⟨hd, ho⟩, rfl⟩

def diamond : ClassGraph :=
  { order := ["A", "B", "D", "C"],
    edges := fun n => match n with
      | "A" => ["B", "C"]
      | "B" => ["D"]
      | "C" => ["D"]
      | _ => [] }

example : (match ordererGraph diamond with | .ok l => l == ["D", "B", "C", "A"] | _ => false) = true := by
  decide +kernel

/-- non-vacuity of `C11_complete`: the diamond's table is closed -/
example : ClosedTable (depTable diamond) :=
  ⟨by decide +kernel, by decide +kernel, by decide +kernel, by decide +kernel, by decide +kernel⟩

def mutualCycle : ClassGraph :=
  { order := ["Root", "Shelf", "Box"],
    edges := fun n => match n with
      | "Root" => ["Shelf"]
      | "Shelf" => ["Box"]
      | "Box" => ["Shelf"]
      | _ => [] }

/-- a mutual cycle below an acyclic root is refused, not partially ordered -/
example : (match ordererGraph mutualCycle with | .error .unresolvable => true | _ => false) = true := by
  decide +kernel

end Statham.C11
