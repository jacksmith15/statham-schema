/-
  C10 — only validation and schema-parse errors escape; no crash on any JSON input.

  The model's outcomes are `ok`, `reject` (the validation error) and `crash` (an evaluated
  sub-computation performs float arithmetic that overflows, or divides by a zero `multipleOf`).  Every definition of the
  call and parse model is a total, structurally recursive function: Lean accepted them, so every call terminates.
-/
import StathamModel.Lemmas.NoCrash
import StathamModel.Lemmas.ParseErr
-- imported so that building and auditing this module re-checks the tie
import StathamModel.Tie
namespace Statham.C10
open Statham

/-- **The property at full strength**: calls never leave {return, validation error}; parsing a
    metaschema-valid schema never raises outside the schema-parse family. -/
def Statement : Prop :=
  (∀ (env : Env) (e : Elem) (a : Arg), (e.call env a).verdict ≠ .crash) ∧
  (∀ (cx : PCtx) (s : Schema), (flagsOf cx s).wf = true → LibErr (parseErr s))

theorem outcomes (env : Env) (e : Elem) (a : Arg) :
    (∃ r, e.call env a = .ok r) ∨ e.call env a = .reject ∨ e.call env a = .crash := by
  cases e.call env a with
  | ok r => exact Or.inl ⟨r, rfl⟩
  | reject => exact Or.inr (Or.inl rfl)
  | crash => exact Or.inr (Or.inr rfl)

/-- **Proved (calls).**  For every element tree whose `multipleOf` keywords are non-zero integers
    below 2^53 and whose defaults contain only integers below 2^53, and every argument whose
    integers are below 2^53 (floats are unrestricted), at any nesting depth: the call returns or
    raises the validation error. -/
theorem C10_partial_call (env : Env) (e : Elem) (a : Arg) (he : safeElem e = true) (ha : safeArg a = true) :
    (∃ r, e.call env a = .ok r) ∨ e.call env a = .reject := by
  have hnc := acc_nc env e he a ha
  rw [← call_verdict] at hnc
  cases h : e.call env a with
  | ok r => exact Or.inl ⟨r, rfl⟩
  | reject => exact Or.inr rfl
  | crash => rw [h] at hnc; exact absurd rfl hnc

/-- **Proved (parsing).**  On every metaschema-valid schema (known type names, no unsupported
    keyword, …) `parse_element` returns an element or raises `SchemaParseError` (missing title);
    in particular never a `KeyError`/`TypeError` (`PErr.other`).  The disjunct `.notImplemented` is `LibErr`'s: it
    comes from an unsupported keyword only, which `wf` excludes. -/
theorem C10_parse (cx : PCtx) (s : Schema) (h : (flagsOf cx s).wf = true) :
    (∃ e, parseElement cx s = .ok e) ∨ parseElement cx s = .error .notImplemented ∨
      parseElement cx s = .error .missingTitle := by
  unfold parseElement
  rcases parseErr_lib cx s h with h0 | h0 | h0 <;> rw [h0]
  · exact Or.inl ⟨_, rfl⟩
  · exact Or.inr (Or.inl rfl)
  · exact Or.inr (Or.inr rfl)

/-! ### counter-witnesses: the full statement is false of the model (and of the library) -/

def env0 : Env := { re := fun _ _ => false, fmt := fun _ => none }

/-- `Number()(10**400)`: `float(10**400)` overflows -/
theorem counter_huge_int :
    ((Elem.leaf .number).call env0 (.val (.num (.int (10 ^ 400))))).verdict = .crash := by decide +kernel

/-- `Element(multipleOf=0.5)(1e308)`: the quotient is `inf`, `int(inf)` raises -/
theorem counter_quotient_overflow :
    ((Elem.leaf .element { multipleOf := some (.flt 1 2) }).call env0
      (.val (.num (.flt (10 ^ 308) 1)))).verdict = .crash := by decide +kernel

/-- the hypotheses are satisfiable on a non-trivial tree -/
example : safeElem (Elem.mk .array { itemsKind := .single, multipleOf := some (.int 3), default := some (.arr [.num (.int 7)]) }
    [Elem.leaf .number { multipleOf := some (.int 2) }] none none [] [] none none [] []) = true := by decide +kernel
example : safeArg (.val (.arr [.num (.flt 1 3), .num (.int 9007199254740991), .obj [("k", .null)]])) = true := by
  decide +kernel

end Statham.C10
