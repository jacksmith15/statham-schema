/-
  C16 — format checking consults exactly the registered checker.
-/
import StathamModel.Format
import StathamModel.Lemmas.ListAux
-- imported so that building and auditing this module re-checks the tie
import StathamModel.Tie
namespace Statham.C16
open Statham

/-- the abstract specification: a map from names to the *last* registered checker -/
def lastRegistered (ops : List RegOp) (init : Registry) (name : String) : Option Checker :=
  ops.foldl (fun acc op => match op with
    | .register n c => if n = name then some c else acc
    | .check _ _ => acc) (init.lookup name)

theorem lookup_register_same (r : Registry) (n : String) (c : Checker) : (r.register n c).lookup n = some c :=
  dictSet_get r n c

theorem lookup_register_other (r : Registry) (n m : String) (c : Checker) (h : m ≠ n) :
    (r.register n c).lookup m = r.lookup m := dictSet_get_ne r n m c h

/-- **Registering a name again replaces the earlier checker; other names are untouched**: after any
    history the registry answers with the last checker registered under that name. -/
theorem C16_last_wins (ops : List RegOp) (init : Registry) (name : String) :
    ((runReg init ops).1).lookup name = lastRegistered ops init name := by
  unfold lastRegistered
  induction ops generalizing init with
  | nil => rfl
  | cons op rest ih =>
    cases op with
    | register n c =>
      simp only [runReg, stepReg, List.foldl_cons]
      rw [ih]
      by_cases h : n = name
      · subst h; simp [lookup_register_same]
      · simp [h, lookup_register_other _ _ _ _ (Ne.symm h)]
    | check n v =>
      simp only [runReg, stepReg, List.foldl_cons]
      exact ih init

/-- **A value is rejected on account of a format exactly when** it is a string, a checker is registered
    under that name, and the checker returns false. -/
theorem C16_reject_iff (r : Registry) (name : String) (v : JVal) :
    r.check name v = .reject ↔ ∃ s c, v = .str s ∧ r.lookup name = some c ∧ c s = false := by
  unfold Registry.check
  constructor
  · intro h
    cases v with
    | str s =>
      simp only at h
      cases hl : r.lookup name with
      | none => rw [hl] at h; cases h
      | some c =>
        rw [hl] at h
        simp only at h
        by_cases hc : c s = true
        · simp [hc] at h
        · exact ⟨s, c, rfl, rfl, by simpa using hc⟩
    | _ => cases h
  · rintro ⟨s, c, rfl, hl, hc⟩
    simp [hl, hc]

/-- an unregistered format never causes rejection, and produces the warning — for strings -/
theorem C16_unregistered (r : Registry) (name : String) (s : String) (h : r.lookup name = none) :
    r.check name (.str s) = .acceptWarn := by
  simp [Registry.check, h]

/-- values that are not strings are never rejected (nor warned about) on account of a format -/
theorem C16_non_string (r : Registry) (name : String) (v : JVal) (h : ∀ s, v ≠ .str s) :
    r.check name v = .accept := by
  cases v with
  | str s => exact absurd rfl (h s)
  | _ => rfl

/-- checking never changes the registry -/
theorem C16_check_pure (r : Registry) (name : String) (v : JVal) : (stepReg r (.check name v)).1 = r := rfl

/-- the `Format` validator's `types` guard is `(str,)` and its keyword `format` (regenerated table) -/
theorem format_types :
    (Gen.validatorTable.find? fun v => v.name == "Format") = some ⟨"Format", some [.str], ["format"]⟩ := by
  decide

end Statham.C16
