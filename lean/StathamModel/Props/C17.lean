/-
  C17 — equal elements are interchangeable.
-/
import StathamModel.Lemmas.EqSymm
import StathamModel.Lemmas.ElemBeq
import StathamModel.Lemmas.SerNames
import StathamModel.Lemmas.CallVerdict
-- imported so that building and auditing this module re-checks the tie
import StathamModel.Tie
namespace Statham.C17
open Statham

/-- **The property at full strength**: equality is reflexive and symmetric, and equal elements accept the
    same values (the serialization half: `C17_partial_congruence_serialization`).  The third clause is false as stated
    (`counter_bool_number`); what is proved of it is `C17_partial_congruence` (trees equal up to names), the rest is
    left to correspondence. -/
def Statement : Prop :=
  (∀ e, wfElem e = true → elemEq e e = true) ∧
  (∀ a b, wfElem a = true → wfElem b = true → elemEq a b = elemEq b a) ∧
  (∀ (env : Env) a b v, wfElem a = true → wfElem b = true → elemEq a b = true → a.accepts env v = b.accepts env v)

/-- **Proved: reflexivity**, for every element tree whose dictionaries (literal objects, `properties`,
    `patternProperties`, `dependencies`) have distinct keys — i.e. every tree that can exist in Python; hence
    independently built copies of one schema are equal. -/
theorem C17_partial_refl (e : Elem) (h : wfElem e = true) : elemEq e e = true := elemEq_refl e h

/-- **Proved: symmetry**, for every pair of well-formed element trees: `a == b` and `b == a` agree — literals by
    Python `==` (dictionaries order-insensitively), numbers by value, `properties` / `patternProperties` /
    `dependencies` as mappings (the pigeonhole step: equal sizes + distinct names), class names ignored. -/
theorem C17_symm (a b : Elem) (ha : wfElem a = true) (hb : wfElem b = true) : elemEq a b = elemEq b a :=
  elemEq_symm a b ha hb

/-- **Proved: the congruence clause for pairs that are the same tree up to names.**  If two element trees coincide once the
    attribute names of properties and the names of object classes are forgotten (`anonymize`: everything else — every keyword
    value in its own spelling, every JSON name, flag, order — identical), they accept exactly the same values, in every
    regex/format environment.  This is the case the `definitions` lookup relies on: a reference to a definition that was
    written separately (de-duplication compares classes of one formatted name only).  The two ways in
    which `==` is coarser than this relation and the congruence *fails* are the recorded findings (`counter_bool_number`:
    literals compared with Python `==`; `counter_int_float_multipleOf`: numbers compared by value); the remaining ways
    (dictionary order, `2` vs `2.0` in the comparing keywords) are decided by correspondence. -/
theorem C17_partial_congruence (env : Env) (a b : Elem) (h : anonymize a = anonymize b) (v : JVal) :
    a.accepts env v = b.accepts env v := by
  rw [accepts_eq, accepts_eq]
  unfold Elem.accV
  rw [acc_congr_of_anonymize env a b h]

/-- the form the driver evaluates (`Elem.same`: executable structural comparison, proved sound) -/
theorem C17_congruence_decidable (env : Env) (a b : Elem) (h : Elem.same (anonymize a) (anonymize b) = true) (v : JVal) :
    a.accepts env v = b.accepts env v :=
  C17_partial_congruence env a b (Elem.same_sound _ _ h) v

/-- **Proved: and they serialize to the same JSON Schema** — class titles aside, which the property's own wording leaves out
    of equality: the schema-level serializations of two trees equal up to names coincide once `title`s are blanked
    (`untitle_toSchema_anon`: the serializer reads a property's JSON name and flag, never its attribute name, and a class
    name only into `title`). -/
theorem C17_partial_congruence_serialization (a b : Elem) (h : anonymize a = anonymize b) :
    untitle (toSchema a) = untitle (toSchema b) :=
  ser_congr_of_anonymize a b h

/-- the same for the not-passed marker (defaults are treated alike) -/
theorem C17_partial_congruence_notPassed (env : Env) (a b : Elem) (h : anonymize a = anonymize b) :
    a.acc env .notPassed = b.acc env .notPassed := by
  rw [acc_congr_of_anonymize env a b h]

/-- non-vacuity: two classes with different names and differently named attributes for the same JSON members -/
example : anonymize (.mk (.object "Cat") { hasProps := true } [] none none
      [({ name := "name", required := true, source := some "name" }, Elem.leaf .string)] [] none none [] []) =
    anonymize (.mk (.object "Dog") { hasProps := true } [] none none
      [({ name := "label", required := true, source := some "name" }, Elem.leaf .string)] [] none none [] []) := by
  rfl

def env0 : Env := { re := fun _ _ => false, fmt := fun _ => none }

/-- finding C17-bool-number-literals: equal, yet they disagree on `true` -/
theorem counter_bool_number :
    elemEq (Elem.leaf .element { const := some (.bool true) }) (Elem.leaf .element { const := some (.num (.int 1)) }) = true ∧
    (Elem.leaf .element { const := some (.bool true) }).accepts env0 (.bool true) = true ∧
    (Elem.leaf .element { const := some (.num (.int 1)) }).accepts env0 (.bool true) = false := by
  refine ⟨by decide +kernel, by decide +kernel, by decide +kernel⟩

/-- finding C17-int-float-multipleOf: `multipleOf=2` and `multipleOf=2.0` compare equal (`2 == 2.0`), but the
    validator takes the exact `%` path for an int parameter and the float-quotient path for a float one; on
    `2^53 + 1` (odd, and rounded to `2^53` by the conversion to double) the first rejects and the second accepts.
    This is the hypothesis the congruence proof forces (same *spelling* of `multipleOf`), run at the excluded point. -/
theorem counter_int_float_multipleOf :
    elemEq (Elem.leaf .element { multipleOf := some (.int 2) }) (Elem.leaf .element { multipleOf := some (.flt 2 1) }) = true ∧
    (Elem.leaf .element { multipleOf := some (.int 2) }).accepts env0 (.num (.int 9007199254740993)) = false ∧
    (Elem.leaf .element { multipleOf := some (.flt 2 1) }).accepts env0 (.num (.int 9007199254740993)) = true := by
  refine ⟨by decide +kernel, by decide +kernel, by decide +kernel⟩

/-- equality never identifies different element classes (subclass priority makes `Element() == String()` false
    both ways), and ignores class names -/
theorem classes_matter : elemEq (Elem.leaf .element) (Elem.leaf .string) = false ∧
    elemEq (Elem.leaf .string) (Elem.leaf .element) = false ∧
    elemEq (Elem.leaf (.object "A") { hasProps := true }) (Elem.leaf (.object "B") { hasProps := true }) = true := by
  refine ⟨by decide +kernel, by decide +kernel, by decide +kernel⟩

end Statham.C17
