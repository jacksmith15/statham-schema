/-
  C02 — the property's last sentence: the generated root class accepts a JSON value iff the source schema does.
  (a file of its own: it puts C02's module-execution theorems and C01's Draft-6 theorem together, and the two developments
  use the name `NodeOK` for different things)
-/
import StathamModel.Props.C02
import StathamModel.Props.C01
namespace Statham.C02
open Statham

open Statham.PyEval in
/-- **The property's last sentence, as a theorem about the models**: for a schema meeting the `Good` conditions of C01 whose
    parse is an object class, in a module that is well-formed (`ModuleOK`), the class the *executed generated module* binds under
    the root's name accepts a JSON value exactly when Draft 6 says the value is valid against the source schema (for calls that
    stay inside the arithmetic domain).  Chain: `C02_executed_classes_are_parsed` (the executed class is one of the parsed
    classes, under its name) + uniqueness of names + `C01_partial`. -/
theorem C02_generated_root_accepts_iff_draft6 (env : Env) (cx : PCtx) (s : Schema) (m : PyModule) (v : JVal)
    (hg : Good cx s = true) (hcls : isObjectClass (parseE cx s).cls = true)
    (h : emitModule [parseE cx s] = .ok m) (ok : ModuleOK [parseE cx s])
    (hv : distinctKeys v = true) (hnc : (parseE cx s).call env (.val v) ≠ .crash) :
    ∃ defs : List (String × Elem), execClasses (fun _ => none) m.classes = some defs ∧
      ∀ c, (objName (parseE cx s).cls, c) ∈ defs → c.accepts env v = D6.valid env typeHasObject s v := by
  obtain ⟨defs, hex, hall⟩ := C02_executed_classes_are_parsed [parseE cx s] m h ok
  refine ⟨defs, hex, ?_⟩
  intro c hc
  obtain ⟨hmem, hname⟩ := hall _ hc
  have hroot : parseE cx s ∈ objectClasses [parseE cx s] := by
    unfold objectClasses
    exact List.mem_filter.mpr ⟨by simp, hcls⟩
  have : c = parseE cx s := ok.unique c hmem _ hroot hname
  rw [this]
  exact C01.C01_partial env cx s v hg hv hnc

end Statham.C02
