/-
  C07 — defaults and object descriptions survive parsing and serialization.  The serialization side is on the
  schema-level model of `serialize_json` (`toSchema`, tied to the real serializer by the driver op `to_schema`).
  Not proved here: the generated-Python leg (class docstrings: finding C07-docstring-quoting) and defaults under
  `serElem`'s `$ref` bookkeeping.  Excluded from `C07_partial_default`: a composition without a declared default
  (`counter_migrated`); from `C07_default_parse_serialize`: a schema that reduces to `Nothing()`
  (`counter_nothing_default`).
-/
import StathamModel.Lemmas.ParseNF
import StathamModel.Lemmas.SerOk
-- imported so that building and auditing this module re-checks the tie
import StathamModel.Tie
namespace Statham.C07
open Statham

/-- the default a schema object declares, as the parser reads it (annotations stripped) -/
def declared (k : SKw) : Option JVal := k.default.map parseLiteral

/-- every element class the parser can build for one type name carries the default it is given -/
theorem mkTyped_default (cx : PCtx) (t : String) (k : SKw) (p : Parts) (d : Option JVal) (ht : t ∈ knownTypes) :
    (mkTyped cx t k p d).kw.default = d := by
  rw [mkTyped_default_only cx ht k p none d]; exact Elem.withDefault_default _ d

/-- a schema object without composition keywords: the element carries exactly the declared default
    (any type, single- and multi-element type lists included) -/
theorem base_default (cx : PCtx) (k : SKw) (p : Parts) (d : Option JVal)
    (hwf : match k.type with
      | .none => True
      | .single t => t ∈ knownTypes
      | .list ts => ∀ t ∈ ts, t ∈ knownTypes) :
    (assembleBase cx k p d).kw.default = d := by
  rw [assembleBase_default_only cx k p none d hwf]; exact Elem.withDefault_default _ d

/-- with composition keywords: a *declared* default (falsy or not) is what the result carries -/
theorem finish_default (el : Elem) (d : JVal) : (finishComposition el (some d)).kw.default = some d := by
  rw [finish_setDefault el none d]; exact Elem.withDefault_default _ _

/-- For every schema object with known type names: if it has no composition keyword, or it
    declares a default, the parsed element carries exactly the declared default — for every JSON value,
    `false`, `0`, `""`, `[]`, `{}` and `null` included. -/
theorem C07_partial_default (cx : PCtx) (k : SKw) (kids : Kids)
    (hwf : match k.type with
      | .none => True
      | .single t => t ∈ knownTypes
      | .list ts => ∀ t ∈ ts, t ∈ knownTypes)
    (h : hasComposition k kids.not = false ∨ k.default.isSome = true) :
    (assembleK cx k kids).kw.default = declared k := by
  unfold assembleK assemble declared
  simp only
  by_cases hc : hasComposition k kids.not = true
  · simp only [hc, if_true]
    rcases h with h | h
    · rw [hc] at h; cases h
    · cases hd : k.default with
      | none => rw [hd] at h; cases h
      | some d => simp only [Option.map_some, assembleComposition]; exact finish_default _ _
  · simp only [hc]
    exact base_default cx k _ _ hwf

def cx0 : PCtx := { ci := { isalnum := isAsciiAlnum, uname := fun _ => "unknown" } }

/-- the `default` / `description` members of a serialized document's root -/
def schemaDefault : Schema → Option JVal
  | .bool _ => none
  | .mk k .. => k.default
def schemaDescription : Schema → Option String
  | .bool _ => none
  | .mk k .. => k.description

/-- The JSON serialization of any element other than `Nothing()` carries exactly the element's default and
    description — whatever the class, the keywords, the value (falsy ones included). -/
theorem C07_json_default (e : Elem) (hc : e.cls ≠ .nothing) :
    schemaDefault (toSchema e) = e.kw.default ∧ schemaDescription (toSchema e) = e.kw.description := by
  cases e with
  | mk c kw items addI cont props pats addP pn deps els =>
    rw [toSchema_mk (c := c) hc]
    exact ⟨rfl, rfl⟩

/-- **Parse then serialize.** A schema object that declares a default (or has no composition keyword) and does not
    reduce to `Nothing()` serializes with exactly that default at its root. -/
theorem C07_default_parse_serialize (cx : PCtx) (k : SKw) (kids : Kids)
    (hwf : match k.type with
      | .none => True
      | .single t => t ∈ knownTypes
      | .list ts => ∀ t ∈ ts, t ∈ knownTypes)
    (h : hasComposition k kids.not = false ∨ k.default.isSome = true)
    (hn : (assembleK cx k kids).cls ≠ .nothing) :
    schemaDefault (toSchema (assembleK cx k kids)) = declared k := by
  rw [(C07_json_default _ hn).1]
  exact C07_partial_default cx k kids hwf h

/-- **Every later round trip keeps every default and description at every depth** — for schemas meeting the
    decidable source condition `nfGood`, the re-parsed tree is the *same tree* (C06_round_trip), so nothing is dropped, moved
    or shared; the second conjunct reads this off for the `default` at the root. -/
theorem C07_round_trips_keep_everything (cx : PCtx) (s : Schema) (h : nfGood cx s = true) :
    parseE cx (toSchema (parseE cx s)) = parseE cx s ∧
    schemaDefault (toSchema (parseE cx (toSchema (parseE cx s)))) = schemaDefault (toSchema (parseE cx s)) := by
  have := parse_toSchema cx _ (parse_NF cx s h)
  exact ⟨this, by rw [this]⟩

/-- **The description of an object schema is the description of its class** (no composition keyword beside it; with
    one, the description stays on the class too, since `description` is a class argument and not split off — see
    `description_beside_composition`). -/
theorem C07_description_class (cx : PCtx) (k : SKw) (p : Parts) (d : Option JVal) :
    (mkTyped cx "object" k p d).kw.description = k.description := by
  unfold mkTyped
  simp only [beq_self_eq_true, if_true]
  rw [mkObject_objKw]
  rfl

theorem description_beside_composition :
    (match (parseE cx0 (.mk { type := .single "object", title := some "A", description := some "text", hasAnyOf := true } [] none none [] []
        none none [] [Schema.leaf { required := some ["a"] }, Schema.leaf { required := some ["b"] }] [] [] none)) with
     | .mk .allOf _ _ _ _ _ _ _ _ _ (cls :: _) => cls.kw.description == some "text"
     | _ => false) = true := by decide +kernel

/-- finding C01-migrated-default seen from C07: without a declared default, a composition that collapses to
    a single branch hands that branch's default to the enclosing schema — a default "moved to another element" -/
theorem counter_migrated :
    ((parseE cx0 (.mk { hasAnyOf := true } [] none none [] [] none none []
        [Schema.leaf { default := some (.num (.int 1)) }] [] [] none)).kw.default).isSome = true := by decide +kernel

/-- finding C07-reduces-to-nothing: `{"anyOf": [false], "default": 1}` is `Nothing()` carrying a default,
    and `Nothing()` serializes to `false`, which has no place for it -/
theorem counter_nothing_default :
    (match parseE cx0 (.mk { hasAnyOf := true, default := some (.num (.int 1)) } [] none none [] [] none none []
        [.bool false] [] [] none) with
     | e => e.cls == .nothing && e.kw.default.isSome && (match serElem none [] e with | .bool false => true | _ => false)) = true := by
  decide +kernel

/-- non-vacuity: falsy defaults on a composition survive (the library dropped them until its commit 66c2d02) -/
example :
    (match (parseE cx0 (.mk { hasAnyOf := true, default := some (.bool false) } [] none none [] [] none none []
        [Schema.leaf { type := .single "string" }, Schema.leaf { type := .single "integer" }] [] [] none)).kw.default with
     | some (.bool false) => true
     | _ => false) = true := by decide +kernel

end Statham.C07
