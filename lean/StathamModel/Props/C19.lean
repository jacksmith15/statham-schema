/-
  C19 — generated type annotations are sound for every value a model can hold.

  `C19_element_sound`: for every element tree satisfying `Hyp`, every environment and every passed value, if
  the call returns a value then that value belongs to the element's annotation (`annot`), read as in
  Py/Typing.lean, and is never the not-passed marker.  `C19_property_sound` lifts it to the property wrapper.

  `Hyp` (a condition on each node) says: every `AllOf` is annotated with its first member's annotation or
  `Any` (its complement is the known finding C19-allof-annotation, `counter_allOf`); member annotations of one
  composition / tuple that print alike are alike (fails only when a model class is named like a typing word);
  an `Array` has `items`.
-/
import StathamModel.Py.Typing
import StathamModel.Props.C04
import StathamModel.Props.C05
-- imported so that building and auditing this module re-checks the tie
import StathamModel.Tie
namespace Statham.C19
open Statham

/-- on a passed value the call only returns values of type `t`, and never the not-passed marker -/
def P (f : Call) (t : PyType) : Prop := ∀ v r, f (.val v) = .ok r → r.hasType t = true ∧ r.isNP = false

def NoTwins (ts : List PyType) : Prop := ∀ a ∈ ts, ∀ b ∈ ts, a.show = b.show → a = b

theorem validators_typeOk {env : Env} {c : Cls} {kw : Kw} {sub : Sub} {v : JVal}
    (h : validators Res.verdict env c kw sub v = .pass) : typeOk c v = true := by
  unfold validators at h
  exact V.ofBool_eq_pass.mp (V.and_eq_pass.mp h).1

theorem scalarConv_notNP (v : JVal) : (scalarConv v).isNP = false := by cases v <;> rfl

theorem trivialConv_notNP (v : JVal) : (trivialConv v).isNP = false := by cases v <;> rfl

theorem trivial_P : P trivialCall .any := by
  intro v r h
  simp only [trivialCall, Res.ok.injEq] at h
  subst h
  simp [RVal.hasType, trivialConv_notNP]

theorem mem_dedupe {t : PyType} {ts : List PyType} (hm : t ∈ ts) (hn : NoTwins ts) : t ∈ dedupeTypes ts := by
  induction ts with
  | nil => cases hm
  | cons u us ih =>
    rw [dedupeTypes]
    rcases List.mem_cons.mp hm with rfl | hm'
    · exact List.mem_cons_self ..
    · by_cases e : t.show = u.show
      · have : t = u := hn t hm u (List.mem_cons_self ..) e
        rw [this]; exact List.mem_cons_self ..
      · refine List.mem_cons_of_mem _ (List.mem_filter.mpr ⟨ih hm' ?_, by simpa using e⟩)
        intro a ha b hb
        exact hn a (List.mem_cons_of_mem _ ha) b (List.mem_cons_of_mem _ hb)

theorem dedupe_subset {t : PyType} {ts : List PyType} (h : t ∈ dedupeTypes ts) : t ∈ ts := by
  induction ts with
  | nil => simp [dedupeTypes] at h
  | cons u us ih =>
    rw [dedupeTypes] at h
    rcases List.mem_cons.mp h with rfl | h
    · exact List.mem_cons_self ..
    · exact List.mem_cons_of_mem _ (ih (List.mem_filter.mp h).1)

/-- a value of one member's type has the union annotation -/
theorem union_sound {r : RVal} {t : PyType} {ts : List PyType} (hm : t ∈ ts) (hn : NoTwins ts)
    (ht : r.hasType t = true) (hnp : r.isNP = false) : r.hasType (unionAnnot ts) = true := by
  unfold unionAnnot
  have hd := mem_dedupe hm hn
  match hdd : dedupeTypes ts with
  | [] => rw [hdd] at hd; cases hd
  | [u] =>
    rw [hdd] at hd
    have : t = u := by simpa using hd
    simp only
    rw [← this]; exact ht
  | u :: w :: rest =>
    simp only
    split
    · simp [RVal.hasType, hnp]
    · rw [← hdd]
      simp only [RVal.hasType, hnp, Bool.not_false, Bool.true_and]
      exact hasTypeAny_of_mem hd ht

/-- a list whose elements all have one of the item annotations has the list annotation -/
theorem list_sound {rs : List RVal} {anns : List PyType}
    (h : ∀ x ∈ rs, x.isNP = false ∧ (anns = [] ∨ anns = [.any] ∨ ∃ t ∈ anns, x.hasType t = true)) :
    (RVal.arr rs).hasType (listAnnot anns) = true := by
  unfold listAnnot
  match anns with
  | [] => simp only [RVal.hasType]
  | [t] =>
    simp only [RVal.hasType, List.all_eq_true]
    intro x hx
    rcases (h x hx).2 with he | he | ⟨u, hu, hxu⟩
    · cases he
    · have : t = .any := by simpa using he
      rw [this]; simp [RVal.hasType, (h x hx).1]
    · have : u = t := by simpa using hu
      rw [← this]; exact hxu
  | t :: u :: rest =>
    simp only [RVal.hasType, List.all_eq_true]
    intro x hx
    rcases (h x hx).2 with he | he | ⟨w, hw, hxw⟩
    · cases he
    · cases he
    · simp only [(h x hx).1, Bool.not_false, Bool.true_and]
      exact hasTypeAny_of_mem hw hxw

/-- what the theorem asks of one node, given the annotations of its children -/
def HypNode (c : Cls) (kw : Kw) (items : List PyType) (addItems : Option PyType) (elements : List PyType) : Prop :=
  (c = .array → kw.itemsKind ≠ .none ∧ NoTwins (items ++ addItems.toList)) ∧
  ((c = .anyOf ∨ c = .oneOf) → NoTwins elements) ∧
  (c = .allOf → allOfAnnot elements = elements.head?.getD .any ∨ allOfAnnot elements = .any)

mutual
def Hyp : Elem → Prop
  | .mk c kw items addI _ _ _ _ _ _ els =>
    HypNode c kw (annotList items) (annotOpt addI) (annotList els) ∧ HypL items ∧ HypO addI ∧ HypL els
def HypO : Option Elem → Prop
  | none => True
  | some e => Hyp e
def HypL : List Elem → Prop
  | [] => True
  | e :: es => Hyp e ∧ HypL es
end

/-- the additional-items call and its annotation agree -/
def AddP (a : Option (Bool × Call)) (t : Option PyType) : Prop :=
  match a, t with
  | some (_, f), some t => P f t
  | none, none => True
  | _, _ => False

/-- `Array.item_annotations` in the tuple form: `Any`, or the distinct annotations of the items and of the
    `additionalItems` element — the latter only when `additionalItems` is an element or `False` -/
theorem itemAnnots_tuple (b : Bool) (itemsT : List PyType) (addT : Option PyType) :
    itemAnnots .tuple b itemsT addT = [.any] ∨
      (itemAnnots .tuple b itemsT addT = dedupeTypes (itemsT ++ addT.toList) ∧ (addT = none → b = false)) := by
  unfold itemAnnots
  cases addT with
  | none =>
    cases b with
    | true => exact Or.inl rfl
    | false =>
      by_cases hany : itemsT.any isAnyText = true
      · exact Or.inl (by simp [hany])
      · exact Or.inr ⟨by simp [hany], fun _ => rfl⟩
  | some a =>
    by_cases hany : (itemsT ++ [a]).any isAnyText = true
    · exact Or.inl (by simp only [hany, if_true])
    · exact Or.inr ⟨by simp only [hany, Bool.false_eq_true, if_false, Option.toList_some], fun h => nomatch h⟩

theorem itemCall_typed {kw : Kw} {sub : Sub} {itemsT : List PyType} {addT : Option PyType}
    (hi : All2 P sub.items itemsT) (ha : AddP sub.addItems addT) (hk : kw.itemsKind ≠ .none)
    (hn : NoTwins (itemsT ++ addT.toList))
    (idx : Nat) (v : JVal) (r : RVal) (h : itemCall resAlg kw sub idx (.val v) = .ok r) :
    r.isNP = false ∧
      (itemAnnots kw.itemsKind kw.addItemsB itemsT addT = [] ∨
       itemAnnots kw.itemsKind kw.addItemsB itemsT addT = [.any] ∨
       ∃ t ∈ itemAnnots kw.itemsKind kw.addItemsB itemsT addT, r.hasType t = true) := by
  cases hkind : kw.itemsKind with
  | none => exact absurd hkind hk
  | single =>
    simp only [itemCall, hkind] at h
    generalize sub.items = its at hi h
    cases hi with
    | nil => exact ⟨(trivial_P v r h).2, Or.inl (by simp [itemAnnots])⟩
    | @cons f t fs ts hft _ => exact ⟨(hft v r h).2, Or.inr (Or.inr ⟨t, by simp [itemAnnots], (hft v r h).1⟩)⟩
  | tuple =>
    -- which element answered: one whose annotation is among those listed, or `Element()`
    have key : r.isNP = false ∧
        ((∃ t ∈ itemsT ++ addT.toList, r.hasType t = true) ∨ (addT = none ∧ kw.addItemsB = true)) := by
      rcases itemCall_tuple hkind idx with ⟨f, hf, e⟩ | ⟨b, f, hadd, e⟩ | ⟨hadd, hb, e⟩ | ⟨-, -, e⟩
      · rw [e] at h
        obtain ⟨t, ht, hP⟩ := hi.exists_right hf
        exact ⟨(hP v r h).2, Or.inl ⟨t, List.mem_append_left _ ht, (hP v r h).1⟩⟩
      · rw [e] at h
        rw [hadd] at ha
        cases addT with
        | none => exact ha.elim
        | some t => exact ⟨(ha v r h).2, Or.inl ⟨t, by simp, (ha v r h).1⟩⟩
      · rw [e] at h
        rw [hadd] at ha
        cases addT with
        | none => exact ⟨(trivial_P v r h).2, Or.inr ⟨rfl, hb⟩⟩
        | some t => exact ha.elim
      · rw [e] at h
        cases h
    refine ⟨key.1, ?_⟩
    rcases itemAnnots_tuple kw.addItemsB itemsT addT with e | ⟨e, hb⟩
    · exact Or.inr (Or.inl e)
    · rw [e]
      rcases key.2 with ⟨t, ht, hrt⟩ | ⟨hnone, hb'⟩
      · exact Or.inr (Or.inr ⟨t, mem_dedupe ht hn, hrt⟩)
      · exact absurd hb' (by simp [hb hnone])

/-- the result of an untyped construction (arrays through `Items`, objects through `Properties`, scalars as they are)
    is never the marker -/
theorem generic_construct_notNP {env : Env} {kw : Kw} {sub : Sub} {v : JVal} {r : RVal}
    (h : (match v with
      | .arr xs => itemsCall kw sub xs
      | .obj kvs => propsCall env kw sub kvs
      | v => Res.ok (scalarConv v)) = .ok r) : r.isNP = false := by
  cases v with
  | arr xs => obtain ⟨ys, rfl⟩ := collect_arr h; rfl
  | obj kvs => obtain ⟨l, rfl⟩ := propsCall_anon h; rfl
  | _ => cases h; rfl

/-- `AllOf` answers only when every member did, and then with the first member's answer -/
theorem attempt_allOf_head {rs : List Res} {r : RVal} (h : attempt .allOf rs = .ok r) : rs.head? = some (.ok r) := by
  have hf := C04.attempt_first h
  unfold attempt at h
  split at h
  · cases h
  · rename_i hc
    simp only [hf] at h
    split at h
    · cases h
    · rename_i hr
      cases rs with
      | nil => cases hf
      | cons x xs =>
        cases x with
        | ok y => simp only [firstOk, Option.some.injEq] at hf; subst hf; rfl
        | reject => simp [anyReject] at hr
        | crash => simp [anyCrash] at hc

/-- an `Array` is typed by `List` of its item annotations -/
theorem array_typed {kw : Kw} {sub : Sub} {itemsT : List PyType} {addT : Option PyType}
    (hi : All2 P sub.items itemsT) (ha : AddP sub.addItems addT) (hk : kw.itemsKind ≠ .none)
    (hn : NoTwins (itemsT ++ addT.toList)) {xs : List JVal} {r : RVal} (h : itemsCall kw sub xs = .ok r) :
    r.hasType (listAnnot (itemAnnots kw.itemsKind kw.addItemsB itemsT addT)) = true := by
  obtain ⟨rs, rfl⟩ := collect_arr h
  refine list_sound fun x hx => ?_
  have hmem : Res.ok x ∈ itemsCallFrom resAlg kw sub 0 xs := by rw [itemsCall_ok h]; exact List.mem_map_of_mem hx
  rw [itemsCallFrom_eq] at hmem
  obtain ⟨i, _, e⟩ := List.mem_mapIdx.mp hmem
  exact itemCall_typed hi ha hk hn _ _ _ e

/-- an `AllOf` is typed by its first member's annotation (every member answered, the first one's result is returned) -/
theorem allOf_typed {fs : List Call} {ts : List PyType} (he : All2 P fs ts)
    (hyp : allOfAnnot ts = ts.head?.getD .any ∨ allOfAnnot ts = .any) {v : JVal} {r : RVal}
    (h : attempt .allOf (fs.map fun f => f (.val v)) = .ok r) : r.hasType (allOfAnnot ts) = true ∧ r.isNP = false := by
  have hhead := attempt_allOf_head h
  cases he with
  | nil => cases hhead
  | @cons f t fs ts hft _ =>
    obtain ⟨hrt, hnp⟩ := hft v r (Option.some.inj hhead)
    refine ⟨?_, hnp⟩
    rcases hyp with e | e
    · rw [e]; exact hrt
    · rw [e]; simp [RVal.hasType, hnp]

/-- the scalar classes accept only their own kind of value, and hand it back under their annotation -/
theorem scalar_typed {c : Cls} (hc : c = .boolean ∨ c = .integer ∨ c = .null ∨ c = .string) {env : Env} {kw : Kw} {sub : Sub}
    {v : JVal} {r : RVal} (ht : typeOk c v = true)
    (hg : (match v with
      | .arr xs => itemsCall kw sub xs
      | .obj kvs => propsCall env kw sub kvs
      | v => Res.ok (scalarConv v)) = .ok r) (itemsT : List PyType) (addT : Option PyType) (elsT : List PyType) :
    r.hasType (annotCore c kw itemsT addT elsT) = true := by
  rcases hc with rfl | rfl | rfl | rfl
  · cases v with
    | bool b => cases hg; rfl
    | _ => cases ht
  · cases v with
    | num n =>
      cases n with
      | int i => cases hg; rfl
      | flt a b => cases ht
    | _ => cases ht
  · cases v with
    | null => cases hg; rfl
    | _ => cases ht
  · cases v with
    | str s => cases hg; rfl
    | _ => cases ht

/-- **One node**: if the children's calls are typed by the children's annotations, the node's call is typed by
    the node's annotation. -/
theorem core_typed (env : Env) (c : Cls) (kw : Kw) (sub : Sub) (itemsT : List PyType) (addT : Option PyType)
    (elsT : List PyType) (hi : All2 P sub.items itemsT) (ha : AddP sub.addItems addT)
    (he : All2 P sub.elements elsT) (hyp : HypNode c kw itemsT addT elsT) :
    P (callCore env c kw sub) (annotCore c kw itemsT addT elsT) := by
  intro v r h
  simp only [callCore, create] at h
  obtain ⟨hv, hc⟩ := guard_ok h
  have htype := validators_typeOk hv
  rcases construct_ok hc with ⟨f, rfl, -, -, rfl⟩ | ⟨hcomp, hm⟩ | ⟨n, d, rfl, rfl, -, rfl⟩ | ⟨name, kvs, l, rfl, rfl, -, rfl⟩ |
    ⟨hcls, hg⟩
  · exact ⟨rfl, rfl⟩
  · -- a composition returns what one of its members returned
    obtain ⟨f, hf, hfr⟩ := List.mem_map.mp (C04.firstOk_mem (C04.attempt_first hm))
    obtain ⟨t, ht, hP⟩ := he.exists_right hf
    obtain ⟨hrt, hnp⟩ := hP v r hfr
    rcases hcomp with rfl | rfl | rfl
    · exact ⟨union_sound ht (hyp.2.1 (Or.inl rfl)) hrt hnp, hnp⟩
    · exact ⟨union_sound ht (hyp.2.1 (Or.inr rfl)) hrt hnp, hnp⟩
    · exact allOf_typed he (hyp.2.2 rfl) hm
  · exact ⟨rfl, rfl⟩
  · exact ⟨by simp [annotCore, RVal.hasType], rfl⟩
  · have hnp := generic_construct_notNP hg
    rcases hcls with rfl | rfl | hs | hs | hs | hs | rfl
    · exact ⟨by simp [annotCore, RVal.hasType, hnp], hnp⟩
    · simp [typeOk] at htype
    · exact ⟨scalar_typed (.inl hs) htype hg _ _ _, hnp⟩
    · exact ⟨scalar_typed (.inr (.inl hs)) htype hg _ _ _, hnp⟩
    · exact ⟨scalar_typed (.inr (.inr (.inl hs))) htype hg _ _ _, hnp⟩
    · exact ⟨scalar_typed (.inr (.inr (.inr hs))) htype hg _ _ _, hnp⟩
    · cases v with
      | arr xs => exact ⟨array_typed hi ha (hyp.1 rfl).1 (hyp.1 rfl).2 hg, hnp⟩
      | _ => simp [typeOk] at htype

mutual
theorem call_typed (env : Env) : ∀ (e : Elem), Hyp e → P (Elem.call env e) (annot e)
  | .mk c kw items addI cont props pats addP pn deps els, h => by
    rw [Hyp] at h
    obtain ⟨hnode, hi, ha, he⟩ := h
    rw [annot]
    unfold Elem.call
    exact core_typed env c kw _ _ _ _ (callList_typed env items hi) (callAddl_typed env addI ha)
      (callList_typed env els he) hnode
theorem callList_typed (env : Env) : ∀ (es : List Elem), HypL es → All2 P (callList env es) (annotList es)
  | [], _ => by rw [callList, annotList]; exact All2.nil
  | e :: es, h => by
    rw [HypL] at h
    rw [callList, annotList]
    exact All2.cons (call_typed env e h.1) (callList_typed env es h.2)
theorem callAddl_typed (env : Env) : ∀ (o : Option Elem), HypO o → AddP (callAddl env o) (annotOpt o)
  | none, _ => by rw [callAddl, annotOpt]; trivial
  | some e, h => by
    rw [HypO] at h
    rw [callAddl, annotOpt]
    exact call_typed env e h
end

/-- **Soundness of element annotations.**  For every element tree satisfying `Hyp`, every regex/format
    environment and every passed value: whatever the call returns belongs to the element's annotation and is
    not the not-passed marker. -/
theorem C19_element_sound (env : Env) (e : Elem) (h : Hyp e) (v : JVal) (r : RVal)
    (hr : e.call env (.val v) = .ok r) : r.hasType (annot e) = true ∧ r.isNP = false :=
  call_typed env e h v r hr

/-- the default, when there is one, is valid for its own element (the property's own restriction) -/
def DefaultValid (env : Env) (e : Elem) : Prop :=
  ∀ d, e.kw.default = some d → ∃ r, e.call env (.val d) = .ok r

/-- `Maybe[T]` holds every value of `T` -/
theorem hasType_propAnnot (k : Key) {e : Elem} {r : RVal} (h : r.hasType (annot e) = true) :
    r.hasType (propAnnot k e) = true := by
  unfold propAnnot
  split
  · exact h
  · simp [RVal.hasType, h]

/-- **Soundness of property annotations.**  The value an attribute receives — from the supplied member, from a
    valid default, or the not-passed marker — belongs to the annotation `_Property.annotation` prints; and when
    that annotation has no `Maybe` (the property is required or defaulted) the attribute is never the marker,
    provided a required property without default is actually supplied (which `Required` enforces, see
    `required_supplied`). -/
theorem C19_property_sound (env : Env) (k : Key) (e : Elem) (h : Hyp e) (hd : DefaultValid env e) (a : Arg) (r : RVal)
    (hr : e.call env a = .ok r)
    (hsupplied : k.required = true → e.kw.default = none → a ≠ .notPassed) :
    r.hasType (propAnnot k e) = true ∧ ((k.required = true ∨ e.kw.default.isSome = true) → r.isNP = false) := by
  cases a with
  | val v => exact ⟨hasType_propAnnot k (call_typed env e h v r hr).1, fun _ => (call_typed env e h v r hr).2⟩
  | notPassed =>
    rw [C05.C05_no_value] at hr
    cases hdef : e.kw.default with
    | none =>
      -- the marker: the property is not required (else it would have been supplied), so its annotation is `Maybe[…]`
      rw [hdef] at hr
      cases hr
      have hreq : k.required = false := Bool.eq_false_iff.mpr fun hk => hsupplied hk hdef rfl
      exact ⟨by simp [propAnnot, hreq, hdef, RVal.hasType, RVal.isNP], fun hc => by simp [hreq] at hc⟩
    | some d =>
      -- the default, which is valid: what the element returns for it
      rw [hdef] at hr
      obtain ⟨r', hr'⟩ := hd d hdef
      simp only [C05.defaultResult, hr', Res.ok.injEq] at hr
      subst hr
      exact ⟨hasType_propAnnot k (call_typed env e h d r' hr').1, fun _ => (call_typed env e h d r' hr').2⟩

/-- what `Required` enforces: on an accepted object every required property without default has its member
    supplied (so `hsupplied` above is met by every model that was actually built) -/
theorem required_supplied (kw : Kw) (props : List (Key × Option JVal)) (depNames : List (String × List String))
    (kvs : List (String × JVal)) (hok : objChecks kw props depNames kvs = .pass)
    (k : Key) (hk : (k, none) ∈ props) (hreq : k.required = true) : (JVal.keys kvs).contains k.src = true := by
  unfold objChecks at hok
  have h1 := V.ofBool_eq_pass.mp (V.and_eq_pass.mp hok).1
  rw [List.all_eq_true] at h1
  apply h1
  unfold requiredNames
  refine List.mem_append_right _ (List.mem_map.mpr ⟨(k, none), List.mem_filter.mpr ⟨hk, by simp [hreq]⟩, rfl⟩)

/-! ### the hypothesis cannot be dropped: `AllOf` annotated with a non-first member (finding C19-allof-annotation) -/

def qCls : Elem := .mk (.object "Q") { hasProps := true } [] none none
  [({ name := "a", required := true, source := some "a" }, Elem.leaf .integer)] [] none none [] []
def allOfBad : Elem := .mk .allOf {} [] none none [] [] none none [] [Elem.leaf .element { required := some ["a"] }, qCls]
def envNone : Env := { re := fun _ _ => false, fmt := fun _ => none }

theorem counter_allOf :
    (annot allOfBad).show = "Q" ∧
    (match allOfBad.call envNone (.val (.obj [("a", .num (.int 1))])) with
     | .ok r => r.hasType (annot allOfBad) == false
     | _ => false) = true := by decide +kernel

def envA : Env := { re := fun p s => p == "^a" && s.startsWith "a", fmt := fun _ => none }
def holderPat : Elem := .mk (.object "Holder") { hasProps := true, hasPatProps := true } [] none none
  [({ name := "a", source := some "a" }, Elem.leaf .integer { default := some (.num (.int 3)) })]
  [({ name := "^a" }, Elem.trivial)] none none [] []
def holderPlain : Elem := .mk (.object "Holder") { hasProps := true } [] none none
  [({ name := "a", source := some "a" }, Elem.leaf .integer { default := some (.num (.int 3)) })] [] none none [] []

/-- finding C19-pattern-overlap-default.  `C19_property_sound` speaks of the property's own element being called; when a
    `patternProperties` pattern of the owning class also matches the property's JSON name, the class calls the composite
    `AllOf(element, *patterns)` instead, which carries no default: the attribute of a defaulted (hence "always present")
    property is then the not-passed marker.  The same class without the pattern fills the default. -/
theorem counter_pattern_overlap_default :
    (match holderPat.call envA (.val (.obj [])) with
     | .ok (.inst _ [("a", .notPassed)]) => true
     | _ => false) = true ∧
    (match holderPlain.call envA (.val (.obj [])) with
     | .ok (.inst _ [("a", .num (.int 3))]) => true
     | _ => false) = true := by
  refine ⟨by decide +kernel, by decide +kernel⟩

def holderCollide : Elem := .mk (.object "C") { hasProps := true } [] none none
  [({ name := "a_b", source := some "a b" }, .mk .array { itemsKind := .single } [Elem.trivial] none none [] [] none none [] [])]
  [] none none [] []

/-- finding C19-key-collision (the C19 face of C04-key-collision): an input member spelled like the Python attribute name of a
    declared property whose JSON name is different lands on that attribute; the property is annotated `Maybe[List[Any]]`
    and holds a number. -/
theorem counter_key_collision :
    (match holderCollide.call envNone (.val (.obj [("a_b", .num (.flt 1 1))])) with
     | .ok (.inst _ [("a_b", .num _)]) => true
     | _ => false) = true := by decide +kernel

/-- a tree with tuple items, a union and a class: its annotation, and a successful call whose result has it -/
def good : Elem := .mk .array { itemsKind := .tuple, addItemsB := false } [Elem.leaf .string, qCls] none none [] [] none none [] []
example : (annot good).show = "List[Union[str, Q]]" := by decide +kernel
example : (match good.call envNone (.val (.arr [.str "x", .obj [("a", .num (.int 1))]])) with
    | .ok r => r.hasType (annot good)
    | _ => false) = true := by decide +kernel

end Statham.C19
