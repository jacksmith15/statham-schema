/-
  C20 — unsupported schema features are refused, never silently mis-modelled.

  `hasUnsupported s` says that some position of `s` which `parse_element` interprets as a schema carries
  one of the documented unsupported keywords (`SKw.unsupported` is `UNSUPPORTED_SCHEMA_KEYWORDS ∩ keys`,
  filled by the decoder from the regenerated constant).  `strip s` is the same schema without those
  keywords.  Reference cycles are not finite schemas; that clause is explored on the real code only.
-/
import StathamModel.Parse
import StathamModel.Dedupe
-- imported so that building and auditing this module re-checks the tie
import StathamModel.Tie
namespace Statham.C20
open Statham

mutual
def hasUnsupported : Schema → Bool
  | .bool _ => false
  | .mk k items addI cont props pats addP pn deps anyOf oneOf allOf not =>
    !k.unsupported.isEmpty || unsNamed props || unsList items || unsNamed pats || unsOpt pn || unsOpt cont ||
      unsDeps deps || unsOpt addP || unsOpt addI || unsList anyOf || unsList oneOf || unsList allOf || unsOpt not
def unsOpt : Option Schema → Bool
  | none => false
  | some s => hasUnsupported s
def unsList : List Schema → Bool
  | [] => false
  | s :: ss => hasUnsupported s || unsList ss
def unsNamed : List (String × Schema) → Bool
  | [] => false
  | (_, s) :: r => hasUnsupported s || unsNamed r
/-- array-form dependencies are lists of names, not schemas -/
def unsDeps : List (Key × Schema) → Bool
  | [] => false
  | (k, s) :: r => (if k.names.isSome then false else hasUnsupported s) || unsDeps r
end

mutual
def strip : Schema → Schema
  | .bool b => .bool b
  | .mk k items addI cont props pats addP pn deps anyOf oneOf allOf not =>
    .mk { k with unsupported := [] } (stripList items) (stripOpt addI) (stripOpt cont) (stripNamed props) (stripNamed pats)
      (stripOpt addP) (stripOpt pn) (stripDeps deps) (stripList anyOf) (stripList oneOf) (stripList allOf) (stripOpt not)
def stripOpt : Option Schema → Option Schema
  | none => none
  | some s => some (strip s)
def stripList : List Schema → List Schema
  | [] => []
  | s :: ss => strip s :: stripList ss
def stripNamed : List (String × Schema) → List (String × Schema)
  | [] => []
  | (n, s) :: r => (n, strip s) :: stripNamed r
def stripDeps : List (Key × Schema) → List (Key × Schema)
  | [] => []
  | (k, s) :: r => (k, if k.names.isSome then s else strip s) :: stripDeps r
end

/-- `NI o b`: the error `o` is "not implemented" exactly when `b`, and otherwise absent -/
def NI (o : Option PErr) (b : Bool) : Prop := o = if b then some .notImplemented else none

theorem first_none {o o' : Option PErr} (h : (match o with | some e => some e | none => o') = none) :
    o = none ∧ o' = none := by
  cases o with
  | none => exact ⟨rfl, h⟩
  | some e => cases h

theorem NI.first {o o' : Option PErr} {b b' : Bool} :
    NI o b → NI o' b' → NI (match o with | some e => some e | none => o') (b || b') := by
  intro h h'
  unfold NI at h h' ⊢
  subst h h'
  cases b <;> rfl

theorem NI.cons {o : Option PErr} {b : Bool} {l : List (Option PErr)} {c : Bool} (h : NI o b) (h' : NI (firstErr l) c) :
    NI (firstErr (o :: l)) (b || c) := by
  have := h.first h'
  -- the same term closes both: `firstErr` on a cons reduces only once `o` is a constructor
  cases o with
  | none => exact this
  | some e => exact this

theorem firstErr_NI : ∀ (l : List (Option PErr × Bool)), (∀ p ∈ l, NI p.1 p.2) →
    NI (firstErr (l.map (·.1))) (l.any (·.2))
  | [], _ => rfl
  | (o, b) :: r, h =>
    (h (o, b) (List.mem_cons_self ..)).cons (firstErr_NI r fun p hp => h p (List.mem_cons_of_mem _ hp))

theorem firstErr_none_all : ∀ (l : List (Option PErr)), firstErr l = none → ∀ o ∈ l, o = none
  | [], _, o, ho => by cases ho
  | some e :: r, h, _, _ => by rw [firstErr] at h; cases h
  | none :: r, h, o, ho => by
    rw [firstErr] at h
    rcases List.mem_cons.mp ho with rfl | ho
    · rfl
    · exact firstErr_none_all r h o ho

/-! The core lemma: when the stripped schema parses, the original's error is "not implemented" exactly
    when it has an unsupported keyword somewhere, and otherwise there is none. -/
mutual
theorem parseErr_NI : ∀ (s : Schema), parseErr (strip s) = none → NI (parseErr s) (hasUnsupported s)
  | .bool _, _ => by unfold NI; rw [parseErr, hasUnsupported]; rfl
  | .mk k items addI cont props pats addP pn deps anyOf oneOf allOf not, h => by
    rw [strip, parseErr] at h
    simp only [List.isEmpty_nil, Bool.not_true, Bool.false_eq_true, if_false] at h
    have hall := firstErr_none_all _ h
    simp only [List.mem_cons, List.mem_nil_iff, or_false, forall_eq_or_imp, forall_eq] at hall
    obtain ⟨h1, h2, h3, h4, h5, h6, h7, h8, h9, h10, h11, h12, h13⟩ := hall
    rw [parseErr, hasUnsupported]
    by_cases hu : k.unsupported.isEmpty = true
    · -- each part of the stripped schema parses, so each part's error is `NI` by induction; `ownErr` does not read
      -- the `unsupported` field, so `h9` speaks of `ownErr k`
      have hown : NI (ownErr k) false := h9
      have := (errNamed_NI props h1).cons <| (errList_NI items h2).cons <| (errNamed_NI pats h3).cons <|
        (errOpt_NI pn h4).cons <| (errOpt_NI cont h5).cons <| (errDeps_NI deps h6).cons <| (errOpt_NI addP h7).cons <|
        (errOpt_NI addI h8).cons <| hown.cons <| (errList_NI anyOf h10).cons <| (errList_NI oneOf h11).cons <|
        (errList_NI allOf h12).cons <| (errOpt_NI not h13).cons (l := []) (c := false) rfl
      simpa only [hu, Bool.not_true, Bool.false_eq_true, if_false, Bool.false_or, Bool.or_false, Bool.or_assoc] using this
    · have hu' : k.unsupported.isEmpty = false := by simpa using hu
      unfold NI
      simp [hu']
theorem errOpt_NI : ∀ (o : Option Schema), errOpt (stripOpt o) = none → NI (errOpt o) (unsOpt o)
  | none, _ => by unfold NI; rw [errOpt, unsOpt]; rfl
  | some s, h => by rw [stripOpt, errOpt] at h; rw [errOpt, unsOpt]; exact parseErr_NI s h
theorem errList_NI : ∀ (l : List Schema), errList (stripList l) = none → NI (errList l) (unsList l)
  | [], _ => by unfold NI; rw [errList, unsList]; rfl
  | s :: ss, h => by
    rw [stripList, errList] at h
    obtain ⟨hs, h⟩ := first_none h
    rw [errList, unsList]
    exact (parseErr_NI s hs).first (errList_NI ss h)
theorem errNamed_NI : ∀ (l : List (String × Schema)), errNamed (stripNamed l) = none → NI (errNamed l) (unsNamed l)
  | [], _ => by unfold NI; rw [errNamed, unsNamed]; rfl
  | (n, s) :: r, h => by
    rw [stripNamed, errNamed] at h
    obtain ⟨hs, h⟩ := first_none h
    rw [errNamed, unsNamed]
    exact (parseErr_NI s hs).first (errNamed_NI r h)
theorem errDeps_NI : ∀ (l : List (Key × Schema)), errDeps (stripDeps l) = none → NI (errDeps l) (unsDeps l)
  | [], _ => by unfold NI; rw [errDeps, unsDeps]; rfl
  | (k, s) :: r, h => by
    rw [stripDeps, errDeps] at h
    obtain ⟨hs, h⟩ := first_none h
    rw [errDeps, unsDeps]
    refine NI.first ?_ (errDeps_NI r h)
    by_cases hk : k.names.isSome = true
    · simp only [hk, if_true]; rfl
    · simp only [hk, Bool.false_eq_true, if_false] at hs ⊢
      exact parseErr_NI s hs
end

/-- **Refused**: a supported schema (its stripped form parses) with an unsupported keyword in any visited
    position raises the not-implemented error. -/
theorem C20_refused (cx : PCtx) (s : Schema) (hsup : parseErr (strip s) = none) (hu : hasUnsupported s = true) :
    parseNamed1 cx s = .error .notImplemented := by
  have := parseErr_NI s hsup
  unfold NI at this
  rw [hu] at this
  simp [parseNamed1, this]

/-! **Never silently ignored** (unconditional): whenever parsing returns an element, no visited position
    carried an unsupported keyword. -/
mutual
theorem parsed_no_unsupported : ∀ (s : Schema), parseErr s = none → hasUnsupported s = false
  | .bool _, _ => by rw [hasUnsupported]
  | .mk k items addI cont props pats addP pn deps anyOf oneOf allOf not, h => by
    rw [parseErr] at h
    by_cases hu : k.unsupported.isEmpty = true
    · simp only [hu, Bool.not_true, Bool.false_eq_true, if_false] at h
      have hall := firstErr_none_all _ h
      simp only [List.mem_cons, List.mem_nil_iff, or_false, forall_eq_or_imp, forall_eq] at hall
      obtain ⟨h1, h2, h3, h4, h5, h6, h7, h8, _, h10, h11, h12, h13⟩ := hall
      rw [hasUnsupported]
      simp [hu, named_no_unsupported props h1, list_no_unsupported items h2, named_no_unsupported pats h3, opt_no_unsupported pn h4,
        opt_no_unsupported cont h5, deps_no_unsupported deps h6, opt_no_unsupported addP h7, opt_no_unsupported addI h8,
        list_no_unsupported anyOf h10, list_no_unsupported oneOf h11, list_no_unsupported allOf h12, opt_no_unsupported not h13]
    · have hu' : k.unsupported.isEmpty = false := by simpa using hu
      simp [hu'] at h
theorem opt_no_unsupported : ∀ (o : Option Schema), errOpt o = none → unsOpt o = false
  | none, _ => by rw [unsOpt]
  | some s, h => by rw [errOpt] at h; rw [unsOpt]; exact parsed_no_unsupported s h
theorem list_no_unsupported : ∀ (l : List Schema), errList l = none → unsList l = false
  | [], _ => by rw [unsList]
  | s :: ss, h => by
    rw [errList] at h
    obtain ⟨hs, h⟩ := first_none h
    rw [unsList, parsed_no_unsupported s hs, list_no_unsupported ss h]; rfl
theorem named_no_unsupported : ∀ (l : List (String × Schema)), errNamed l = none → unsNamed l = false
  | [], _ => by rw [unsNamed]
  | (n, s) :: r, h => by
    rw [errNamed] at h
    obtain ⟨hs, h⟩ := first_none h
    rw [unsNamed, parsed_no_unsupported s hs, named_no_unsupported r h]; rfl
theorem deps_no_unsupported : ∀ (l : List (Key × Schema)), errDeps l = none → unsDeps l = false
  | [], _ => by rw [unsDeps]
  | (k, s) :: r, h => by
    rw [errDeps] at h
    obtain ⟨hs, h⟩ := first_none h
    rw [unsDeps, deps_no_unsupported r h, Bool.or_false]
    by_cases hk : k.names.isSome = true
    · simp only [hk, if_true]
    · simp only [hk, Bool.false_eq_true, if_false] at hs ⊢
      exact parsed_no_unsupported s hs
end

theorem C20_never_silent (cx : PCtx) (s : Schema) (e : Elem) (h : parseNamed1 cx s = .ok e) : hasUnsupported s = false := by
  unfold parseNamed1 at h
  cases hp : parseErr s with
  | some err => rw [hp] at h; cases h
  | none => exact parsed_no_unsupported s hp

mutual
/-- `strip` removes them all: the hypothesis `parseErr (strip s) = none` above is about a schema that `hasUnsupported` clears -/
theorem strip_clean : ∀ (s : Schema), hasUnsupported (strip s) = false
  | .bool _ => by rw [strip, hasUnsupported]
  | .mk k items addI cont props pats addP pn deps anyOf oneOf allOf not => by
    rw [strip, hasUnsupported]
    simp [stripNamed_clean props, stripList_clean items, stripNamed_clean pats, stripOpt_clean pn, stripOpt_clean cont,
      stripDeps_clean deps, stripOpt_clean addP, stripOpt_clean addI, stripList_clean anyOf, stripList_clean oneOf,
      stripList_clean allOf, stripOpt_clean not]
theorem stripOpt_clean : ∀ (o : Option Schema), unsOpt (stripOpt o) = false
  | none => by rw [stripOpt, unsOpt]
  | some s => by rw [stripOpt, unsOpt]; exact strip_clean s
theorem stripList_clean : ∀ (l : List Schema), unsList (stripList l) = false
  | [] => by rw [stripList, unsList]
  | s :: ss => by rw [stripList, unsList, strip_clean s, stripList_clean ss]; rfl
theorem stripNamed_clean : ∀ (l : List (String × Schema)), unsNamed (stripNamed l) = false
  | [] => by rw [stripNamed, unsNamed]
  | (n, s) :: r => by rw [stripNamed, unsNamed, strip_clean s, stripNamed_clean r]; rfl
theorem stripDeps_clean : ∀ (l : List (Key × Schema)), unsDeps (stripDeps l) = false
  | [] => by rw [stripDeps, unsDeps]
  | (k, s) :: r => by
    rw [stripDeps, unsDeps]
    by_cases hk : k.names.isSome = true
    · simp [hk, stripDeps_clean r]
    · simp [hk, strip_clean s, stripDeps_clean r]
end

/-- **The same schema without that part still parses**: `hsup`, carried through `parseNamed1`.  That the refusal is the only
    error the unsupported keywords add is `parseErr_NI`. -/
theorem C20_still_parses (cx : PCtx) (s : Schema) (hsup : parseErr (strip s) = none) :
    ∃ e, parseNamed1 cx (strip s) = .ok e := by
  simp [parseNamed1, hsup]

/-- documents: the root and every entry of `definitions` are visited -/
theorem C20_document (cx : PCtx) (root : Schema) (defs : List (String × Schema))
    (hsup : parseErr (strip root) = none ∧ ∀ d ∈ defs, parseErr (strip d.2) = none)
    (hu : hasUnsupported root = true ∨ ∃ d ∈ defs, hasUnsupported d.2 = true) :
    parseDoc cx root defs = .error .notImplemented := by
  have key : NI (firstErr (parseErr root :: defs.map (fun d => parseErr d.2)))
      (hasUnsupported root || defs.any (fun d => hasUnsupported d.2)) := by
    have := firstErr_NI ((parseErr root, hasUnsupported root) :: defs.map fun d => (parseErr d.2, hasUnsupported d.2))
      (by
        intro p hp
        rcases List.mem_cons.mp hp with rfl | hp
        · exact parseErr_NI root hsup.1
        · obtain ⟨d, hd, rfl⟩ := List.mem_map.mp hp
          exact parseErr_NI d.2 (hsup.2 d hd))
    simpa [List.map_map, Function.comp_def, List.any_map] using this
  have hb : (hasUnsupported root || defs.any (fun d => hasUnsupported d.2)) = true := by
    rcases hu with h | ⟨d, hd, h⟩
    · simp [h]
    · simp only [Bool.or_eq_true, List.any_eq_true]; exact Or.inr ⟨d, hd, h⟩
  unfold NI at key
  rw [hb] at key
  simp [parseDoc, key]

theorem C20_document_never_silent (cx : PCtx) (root : Schema) (defs : List (String × Schema)) (es : List Elem)
    (h : parseDoc cx root defs = .ok es) : hasUnsupported root = false ∧ ∀ d ∈ defs, hasUnsupported d.2 = false := by
  unfold parseDoc at h
  cases hf : firstErr (parseErr root :: defs.map (fun d => parseErr d.2)) with
  | some e => rw [hf] at h; cases h
  | none =>
    have hall := firstErr_none_all _ hf
    refine ⟨parsed_no_unsupported root (hall _ (List.mem_cons_self ..)), fun d hd => ?_⟩
    exact parsed_no_unsupported d.2 (hall _ (List.mem_cons_of_mem _ (List.mem_map.mpr ⟨d, hd, rfl⟩)))

def sIf : Schema := .mk { type := .single "string", unsupported := ["if"] } [] none none [] [] none none [] [] [] [] none
def sNested : Schema := .mk { type := .single "array" } [sIf] none none [] [] none none [] [] [] [] none

example : hasUnsupported sNested = true ∧ parseErr (strip sNested) = none := by decide +kernel
example : parseErr sNested = some .notImplemented := by decide +kernel

end Statham.C20
