/-
  C04 at every depth: the result of a successful call holds the whole input value, unaltered.

  `embeds r v`: `r` is `v` — the same scalar (numbers by value), a list holding the items' results in
  order, an object result holding, for every input member, a member of the same key whose result embeds the
  member's value.  Defaults and class instances add structure; nothing of the input is dropped or changed.

  Hypotheses: `NoRename e` — no property of the tree is stored under a name different from its JSON key
  (otherwise two keys can meet in one attribute: finding C04-key-collision); `okVal v` — objects of the value
  have distinct keys (a Python dict) and integers are below 2^53 in magnitude (beyond that `Number` rounds:
  finding C04-int-precision).
-/
import StathamModel.Props.C04
import StathamModel.Lemmas.EqRefl
namespace Statham.C04
open Statham

mutual
def embeds : RVal → JVal → Bool
  | r, .null => (match r with | .null => true | .raw w => JVal.pyEq w .null | _ => false)
  | r, .bool b => (match r with | .bool b' => b == b' | .raw w => JVal.pyEq w (.bool b) | _ => false)
  | r, .num n => (match r with | .num m => Num.eqv m n | .raw w => JVal.pyEq w (.num n) | _ => false)
  | r, .str s => (match r with | .str s' => s == s' | .raw w => JVal.pyEq w (.str s) | _ => false)
  | r, .arr xs => (match r with | .arr rs => embedsList rs xs | .raw w => JVal.pyEq w (.arr xs) | _ => false)
  | r, .obj kvs => (match r with
      | .anon l => embedsKV l kvs
      | .inst _ l => embedsKV l kvs
      | .raw w => JVal.pyEq w (.obj kvs)
      | _ => false)
def embedsList : List RVal → List JVal → Bool
  | [], [] => true
  | r :: rs, x :: xs => embeds r x && embedsList rs xs
  | _, _ => false
/-- every input member has a result member of the same key that embeds its value -/
def embedsKV : List (String × RVal) → List (String × JVal) → Bool
  | _, [] => true
  | l, (k, x) :: kvs => l.any (fun p => p.1 == k && embeds p.2 x) && embedsKV l kvs
end

/-- integers small enough to be exact doubles -/
def smallInts : JVal → Bool
  | .num (.int i) => i.natAbs < 9007199254740992
  | .arr xs => siL xs
  | .obj kvs => siKV kvs
  | _ => true
where
  siL : List JVal → Bool
    | [] => true
    | x :: xs => smallInts x && siL xs
  siKV : List (String × JVal) → Bool
    | [] => true
    | (_, v) :: r => smallInts v && siKV r

def okVal (v : JVal) : Prop := distinctKeys v = true ∧ smallInts v = true

theorem okVal_item {xs : List JVal} (h : okVal (.arr xs)) {x : JVal} (hx : x ∈ xs) : okVal x := by
  obtain ⟨h1, h2⟩ := h
  simp only [distinctKeys, smallInts] at h1 h2
  induction xs with
  | nil => cases hx
  | cons y ys ih =>
    simp only [distinctKeys.dkL, smallInts.siL, Bool.and_eq_true] at h1 h2
    rcases List.mem_cons.mp hx with rfl | hx
    · exact ⟨h1.1, h2.1⟩
    · exact ih hx h1.2 h2.2

theorem okVal_member {kvs : List (String × JVal)} (h : okVal (.obj kvs)) {k : String} {x : JVal} (hx : (k, x) ∈ kvs) :
    okVal x := by
  obtain ⟨h1, h2⟩ := h
  simp only [distinctKeys, smallInts, Bool.and_eq_true] at h1 h2
  have h1' := h1.2
  clear h1
  induction kvs with
  | nil => cases hx
  | cons y ys ih =>
    obtain ⟨k', y'⟩ := y
    simp only [distinctKeys.dkKV, smallInts.siKV, Bool.and_eq_true] at h1' h2
    rcases List.mem_cons.mp hx with he | hx
    · simp only [Prod.mk.injEq] at he
      obtain ⟨_, rfl⟩ := he
      exact ⟨h1'.1, h2.1⟩
    · exact ih hx h2.2 h1'.2

theorem embeds_raw (v : JVal) (h : distinctKeys v = true) : embeds (.raw v) v = true := by
  cases v <;> simp only [embeds] <;> exact pyEq_refl _ h

theorem convKV_eq_map (kvs : List (String × JVal)) : trivialConv.convKV kvs = kvs.map fun p => (p.1, trivialConv p.2) := by
  induction kvs with
  | nil => rfl
  | cons p r ih => rw [trivialConv.convKV, ih]; rfl

mutual
theorem embeds_trivial : ∀ (v : JVal), embeds (trivialConv v) v = true
  | .null => rfl
  | .bool b => by simp [trivialConv, embeds]
  | .num n => by simp [trivialConv, embeds, Num.eqv]
  | .str s => by simp [trivialConv, embeds]
  | .arr xs => by simp only [trivialConv, embeds]; exact embedsList_trivial xs
  | .obj kvs => by simp only [trivialConv, embeds]; exact embedsKV_trivial kvs kvs (fun p hp => hp)
theorem embedsList_trivial : ∀ (xs : List JVal), embedsList (trivialConv.conv xs) xs = true
  | [] => rfl
  | x :: xs => by simp only [trivialConv.conv, embedsList, embeds_trivial x, embedsList_trivial xs]; rfl
theorem embedsKV_trivial : ∀ (all kvs : List (String × JVal)), (∀ p ∈ kvs, p ∈ all) →
    embedsKV (trivialConv.convKV all) kvs = true
  | _, [], _ => by rw [embedsKV]
  | all, (k, x) :: kvs, h => by
    rw [embedsKV, embedsKV_trivial all kvs (fun p hp => h p (List.mem_cons_of_mem _ hp))]
    simp only [Bool.and_true, List.any_eq_true]
    rw [convKV_eq_map]
    exact ⟨(k, trivialConv x), List.mem_map.mpr ⟨(k, x), h (k, x) (List.mem_cons_self ..), rfl⟩, by simp [embeds_trivial x]⟩
end

theorem embeds_scalar (v : JVal) (hs : match v with | .arr _ => False | .obj _ => False | _ => True) :
    embeds (scalarConv v) v = true := by
  cases v with
  | arr xs => exact absurd hs id
  | obj kvs => exact absurd hs id
  | null => rfl
  | bool b => simp [scalarConv, embeds]
  | num n => simp [scalarConv, embeds, Num.eqv]
  | str s => simp [scalarConv, embeds]

/-- a call that hands back every passed value complete and unaltered -/
def P (f : Call) : Prop := ∀ v r, okVal v → f (.val v) = .ok r → embeds r v = true

/-- no `contains`, `propertyNames`, `dependencies`: those only validate, their results never enter the value -/
structure SubOK (sub : Sub) : Prop where
  items : ∀ f ∈ sub.items, P f
  addItems : ∀ p, sub.addItems = some p → P p.2
  props : ∀ p ∈ sub.props, P p.2.2 ∧ p.1.src = p.1.name
  patProps : ∀ p ∈ sub.patProps, P p.2
  addProps : ∀ f, sub.addProps = some f → P f
  elements : ∀ f ∈ sub.elements, P f

theorem P_closed : resAlg.Closed P where
  trivial v r _ h := by cases h; exact embeds_trivial v
  nothing v r _ h := by cases h
  -- `AllOf` built on the fly: the first member's result
  allOf fs h v r hv hr := by
    obtain ⟨f, hf, hfr⟩ := List.mem_map.mp (firstOk_mem (attempt_first (mode := .allOf) hr))
    exact h f hf v r hv hfr

theorem itemsCallFrom_embeds {kw : Kw} {sub : Sub} (h : SubOK sub) :
    ∀ (ys : List JVal) (off : Nat) (qs : List RVal), (∀ y ∈ ys, okVal y) →
      itemsCallFrom resAlg kw sub off ys = qs.map Res.ok → embedsList qs ys = true
  | [], _, qs, _, hq => by
    cases qs with
    | nil => rfl
    | cons q qs => simp [itemsCallFrom] at hq
  | y :: ys, off, qs, hok, hq => by
    cases qs with
    | nil => simp [itemsCallFrom] at hq
    | cons q qs =>
      simp only [itemsCallFrom, List.map_cons, List.cons.injEq] at hq
      rw [embedsList, itemCall_closed P_closed h.items h.addItems off y q (hok y (List.mem_cons_self ..)) hq.1,
        itemsCallFrom_embeds h ys (off + 1) qs (fun z hz => hok z (List.mem_cons_of_mem _ hz)) hq.2]
      rfl

theorem items_embeds {kw : Kw} {sub : Sub} (h : SubOK sub) {xs : List JVal} {r : RVal} (hv : okVal (.arr xs))
    (hr : itemsCall kw sub xs = .ok r) : embeds r (.arr xs) = true := by
  obtain ⟨rs, rfl⟩ := collect_arr hr
  simp only [embeds]
  exact itemsCallFrom_embeds h xs 0 rs (fun y hy => okVal_item hv hy) (itemsCall_ok hr)

/-- under `SubOK` every key resolves to a call that is `P`, and to its own name -/
theorem resolve_ok {env : Env} {kw : Kw} {sub : Sub} (h : SubOK sub) (k : String) (a : Arg) :
    (resolveCall resAlg env kw sub k a).1 = k ∧
    ∃ f, P f ∧ (resolveCall resAlg env kw sub k a).2 = f a := by
  refine ⟨?_, resolveCall_closed P_closed (fun p hp => (h.props p hp).1) h.patProps h.addProps env k a⟩
  rw [resolveCall_fst]
  cases hd : findDeclared sub.props k with
  | none => rfl
  | some q =>
    obtain ⟨key, f⟩ := q
    obtain ⟨p, hp, rfl, -, hsrc⟩ := findDeclared_some hd
    exact (h.props p hp).2.symm.trans hsrc

theorem outs_names {env : Env} {kw : Kw} {sub : Sub} (h : SubOK sub) (kvs : List (String × JVal)) :
    (propsOuts resAlg env kw sub kvs).map (·.1) = visitKeys sub kvs := by
  unfold propsOuts
  rw [List.map_map]
  conv => rhs; rw [← List.map_id (visitKeys sub kvs)]
  apply List.map_congr_left
  intro k _
  exact (resolve_ok h k (argOf kvs k)).1

theorem props_embeds {env : Env} {kw : Kw} {sub : Sub} (h : SubOK sub) {kvs : List (String × JVal)} {L : List (String × RVal)}
    (hv : okVal (.obj kvs)) (hr : propsCall env kw sub kvs = .ok (.anon L)) : embedsKV L kvs = true := by
  have hkeys : distinct (kvs.map (·.1)) = true := by
    have := hv.1
    simp only [distinctKeys, Bool.and_eq_true] at this
    exact this.1
  have hdist : distinct ((propsOuts resAlg env kw sub kvs).map (·.1)) = true := by
    rw [outs_names h]; exact visitKeys_distinct sub kvs hkeys
  -- every list of members of the input is embedded (induction needs the list free, `L` fixed)
  suffices hs : ∀ (part : List (String × JVal)), (∀ p ∈ part, p ∈ kvs) → embedsKV L part = true from hs kvs (fun _ hp => hp)
  intro part
  induction part with
  | nil => intro _; rw [embedsKV]
  | cons kx rest ih =>
    obtain ⟨k, x⟩ := kx
    intro hsub
    rw [embedsKV, ih (fun p hp => hsub p (List.mem_cons_of_mem _ hp))]
    simp only [Bool.and_true, List.any_eq_true]
    have hm : (k, x) ∈ kvs := hsub (k, x) (List.mem_cons_self ..)
    obtain ⟨r, hcall, hget⟩ := object_members hr hdist hkeys hm
    obtain ⟨hname, f, hP, hres⟩ := resolve_ok (env := env) (kw := kw) h k (.val x)
    rw [hname] at hget
    rw [hres] at hcall
    refine ⟨(k, r), dictGet?_mem _ _ _ hget, ?_⟩
    simp [hP x r (okVal_member hv hm) hcall]

/-- **One node**: with sub-calls that hand their values back whole, so does this call. -/
theorem core_embeds (env : Env) (c : Cls) (kw : Kw) (sub : Sub) (h : SubOK sub) : P (callCore env c kw sub) := by
  intro v r hv hr
  simp only [callCore, create] at hr
  obtain ⟨-, hc⟩ := guard_ok hr
  rcases construct_ok hc with ⟨f, -, -, -, rfl⟩ | ⟨-, hm⟩ | ⟨n, d, -, rfl, hd, rfl⟩ | ⟨name, kvs, l, -, rfl, hp, rfl⟩ |
    ⟨-, hg⟩
  · exact embeds_raw v hv.1
  · obtain ⟨f, hf, hfr⟩ := List.mem_map.mp (firstOk_mem (attempt_first hm))
    exact h.elements f hf v r hv hfr
  · cases n with
    | int i =>
      have := number_value i (by simpa [smallInts] using hv.2)
      rw [this.1] at hd
      cases hd
      simp only [embeds]
      exact this.2
    | flt a b => cases hd; simp [embeds, Num.eqv]
  · simp only [embeds]; exact props_embeds h hv hp
  · cases v with
    | arr xs => exact items_embeds h hv hg
    | obj kvs =>
      obtain ⟨l, rfl⟩ := propsCall_anon hg
      simp only [embeds]
      exact props_embeds h hv hg
    | _ => cases hg; exact embeds_scalar _ trivial

/-- no property is stored under an attribute name different from its JSON key -/
def keysPlain (props : List (Key × Elem)) : Prop := ∀ p ∈ props, p.1.src = p.1.name

mutual
def NoRename : Elem → Prop
  | .mk _ _ items addI _ props pats addP _ _ els =>
    keysPlain props ∧ NoRenameL items ∧ NoRenameO addI ∧ NoRenameK props ∧ NoRenameK pats ∧ NoRenameO addP ∧ NoRenameL els
def NoRenameO : Option Elem → Prop
  | none => True
  | some e => NoRename e
def NoRenameL : List Elem → Prop
  | [] => True
  | e :: es => NoRename e ∧ NoRenameL es
def NoRenameK : List (Key × Elem) → Prop
  | [] => True
  | (_, e) :: r => NoRename e ∧ NoRenameK r
end

mutual
theorem call_embeds (env : Env) : ∀ (e : Elem), NoRename e → P (Elem.call env e)
  | .mk c kw items addI cont props pats addP pn deps els, h => by
    rw [NoRename] at h
    obtain ⟨hplain, hi, ha, hp, hpt, hap, he⟩ := h
    unfold Elem.call
    apply core_embeds
    exact {
      items := callList_embeds env items hi
      addItems := by
        intro p hp'
        cases addI with
        | none => simp [callAddl] at hp'
        | some e =>
          simp only [callAddl, Option.some.injEq] at hp'
          rw [← hp']
          exact call_embeds env e ha
      props := callProps_embeds env props hp hplain
      patProps := callKeyed_embeds env pats hpt
      addProps := by
        intro f hf
        cases addP with
        | none => simp [callOpt] at hf
        | some e =>
          simp only [callOpt, Option.some.injEq] at hf
          rw [← hf]
          exact call_embeds env e hap
      elements := callList_embeds env els he }
theorem callList_embeds (env : Env) : ∀ (es : List Elem), NoRenameL es → ∀ f ∈ callList env es, P f
  | [], _ => by intro f hf; simp [callList] at hf
  | e :: es, h => by
    rw [NoRenameL] at h
    intro f hf
    rw [callList] at hf
    rcases List.mem_cons.mp hf with rfl | hf
    · exact call_embeds env e h.1
    · exact callList_embeds env es h.2 f hf
theorem callKeyed_embeds (env : Env) : ∀ (l : List (Key × Elem)), NoRenameK l → ∀ p ∈ callKeyed env l, P p.2
  | [], _ => by intro p hp; simp [callKeyed] at hp
  | (k, e) :: r, h => by
    rw [NoRenameK] at h
    intro p hp
    rw [callKeyed] at hp
    rcases List.mem_cons.mp hp with rfl | hp
    · exact call_embeds env e h.1
    · exact callKeyed_embeds env r h.2 p hp
theorem callProps_embeds (env : Env) : ∀ (l : List (Key × Elem)), NoRenameK l → keysPlain l →
    ∀ p ∈ callProps env l, P p.2.2 ∧ p.1.src = p.1.name
  | [], _, _ => by intro p hp; simp [callProps] at hp
  | (k, e) :: r, h, hk => by
    rw [NoRenameK] at h
    intro p hp
    rw [callProps] at hp
    rcases List.mem_cons.mp hp with rfl | hp
    · exact ⟨call_embeds env e h.1, hk (k, e) (List.mem_cons_self ..)⟩
    · exact callProps_embeds env r h.2 (fun q hq => hk q (List.mem_cons_of_mem _ hq)) p hp
end

/-- **Accepted values come back complete and unaltered, at every depth.**  For every element tree without renamed
    properties, every environment, and every value whose objects have distinct keys and whose integers are below
    2^53 in magnitude: if the call returns `r`, then `r` embeds `v` — scalars equal (numbers by value), arrays
    item by item in order, and every member of every object present under its key with its value embedded in turn. -/
theorem C04_tree (env : Env) (e : Elem) (h : NoRename e) (v : JVal) (hv : okVal v) (r : RVal)
    (hr : e.call env (.val v) = .ok r) : embeds r v = true :=
  call_embeds env e h v r hv hr

/-! non-vacuity -/
def sample : Elem := .mk (.object "T") { hasProps := true } [] none none
  [({ name := "a", source := some "a" }, .mk .array { itemsKind := .single } [Elem.leaf .number] none none [] [] none none [] [])]
  [] none none [] []
example : NoRename sample := by
  simp [sample, NoRename, NoRenameL, NoRenameO, NoRenameK, keysPlain, Key.src, Elem.leaf]
example : (match sample.call env0 (.val (.obj [("a", .arr [.num (.int 1), .num (.flt 5 2)]), ("extra", .str "x")])) with
    | .ok r => embeds r (.obj [("a", .arr [.num (.int 1), .num (.flt 5 2)]), ("extra", .str "x")])
    | _ => false) = true := by decide +kernel

end Statham.C04
