/-
  C12 — every JSON name maps to a usable, unambiguous Python name.

  `attrName` / `titleFormat` model `_parse_attribute_name` / `_title_format` character by
  character.  Unicode facts are parameters (`CharInfo`, and `idc` = "may occur inside an
  identifier"); the check tests the hypotheses about them against the running interpreter, code point by
  code point (every code point at the thorough tier; those below U+3000 and a sample at the quick tier).  Proved: the attribute name consists of identifier characters, starts like an
  identifier and is not reserved.  Not proved, because false of the library: that different JSON names get different
  attribute names (`counter_collapse`), and anything of the kind for titles (`counter_titles`).
-/
import StathamModel.Names
import StathamModel.Gen.Constants
-- imported so that building and auditing this module re-checks the tie
import StathamModel.Tie
namespace Statham.C12
open Statham

/-- what the proofs assume about the interpreter's character classes -/
structure Faithful (ci : CharInfo) (idc : Char → Bool) : Prop where
  /-- every `str.isalnum()` character may occur inside an identifier (false for 923 code points, e.g. `²`:
      the recorded finding C12-alnum-not-identifier) -/
  alnum : ∀ c, ci.isalnum c = true → idc c = true
  underscore : idc '_' = true
  /-- lower-cased Unicode names consist of identifier characters, spaces and hyphens -/
  uname : ∀ c, ∀ x ∈ (ci.uname c).toList, idc x = true ∨ x = ' ' ∨ x = '-'
  blank : ∀ x ∈ "blank".toList, idc x = true

/-- what `_char_map` emits for `c`: `c` itself when it is kept, else `_`, or its Unicode name between optional `_` -/
theorem mem_charMap {ci : CharInfo} {prev : Option Char} {c : Char} {next : Option Char} {x : Char}
    (h : x ∈ charMap ci prev c next) :
    (x = c ∧ (ci.isalnum c = true ∨ c = '_' ∨ c = '-' ∨ c = ' ')) ∨ x = '_' ∨ x ∈ (ci.uname c).toList := by
  unfold charMap at h
  split at h
  · rename_i hk
    exact Or.inl ⟨List.mem_singleton.mp h, by simpa [or_assoc] using hk⟩
  · split at h
    · exact Or.inr (Or.inl (List.mem_singleton.mp h))
    · have pre : ∀ y ∈ (match prev with
          | some p => if p != '_' then '_' :: (ci.uname c).toList else (ci.uname c).toList
          | none => (ci.uname c).toList), y = '_' ∨ y ∈ (ci.uname c).toList := by
        intro y hy
        cases prev with
        | none => exact Or.inr hy
        | some p =>
          simp only at hy
          split at hy
          · exact List.mem_cons.mp hy
          · exact Or.inr hy
      cases next with
      | none => exact Or.inr (pre x h)
      | some n =>
        simp only at h
        split at h
        · rcases List.mem_append.mp h with e | e
          · exact Or.inr (pre x e)
          · exact Or.inr (Or.inl (List.mem_singleton.mp e))
        · exact Or.inr (pre x h)

theorem charMap_ok {ci : CharInfo} {idc : Char → Bool} (F : Faithful ci idc) (prev : Option Char) (c : Char)
    (next : Option Char) : ∀ x ∈ charMap ci prev c next, idc x = true ∨ x = ' ' ∨ x = '-' := by
  intro x hx
  rcases mem_charMap hx with ⟨rfl, h | rfl | rfl | rfl⟩ | rfl | hu
  · exact Or.inl (F.alnum _ h)
  · exact Or.inl F.underscore
  · exact Or.inr (Or.inr rfl)
  · exact Or.inr (Or.inl rfl)
  · exact Or.inl F.underscore
  · exact F.uname c x hu

theorem mapChars_ok {ci : CharInfo} {idc : Char → Bool} (F : Faithful ci idc) :
    ∀ (name : List Char) (prev : Option Char), ∀ x ∈ mapChars ci prev name, idc x = true ∨ x = ' ' ∨ x = '-'
  | [], _, x, hx => by simp [mapChars] at hx
  | c :: rest, prev, x, hx => by
    rw [mapChars] at hx
    rcases List.mem_append.mp hx with e | e
    · exact charMap_ok F prev c rest.head? x e
    · exact mapChars_ok F rest (some c) x e

theorem replace_ok {idc : Char → Bool} (hu : idc '_' = true) (cs : List Char)
    (h : ∀ x ∈ cs, idc x = true ∨ x = ' ' ∨ x = '-') : ∀ x ∈ replaceSpaceHyphen cs, idc x = true := by
  intro x hx
  unfold replaceSpaceHyphen at hx
  obtain ⟨y, hy, rfl⟩ := List.mem_map.mp hx
  by_cases hc : (y == ' ' || y == '-') = true
  · simp only [hc, if_true]; exact hu
  · simp only [hc]
    rcases h y hy with e | e | e
    · exact e
    · subst e; simp at hc
    · subst e; simp at hc

/-- the attribute name, once the first character has been fixed -/
def headFixed (c : Char) (rest : List Char) : List Char := if isFirstChar c then c :: rest else '_' :: c :: rest

theorem finishName_cons (reserved : List String) (c : Char) (rest : List Char) :
    finishName reserved (c :: rest) =
      if reserved.contains (String.ofList (headFixed c rest)) then headFixed c rest ++ ['_'] else headFixed c rest := rfl

theorem finishName_ok {idc : Char → Bool} (hu : idc '_' = true) (hb : ∀ x ∈ "blank".toList, idc x = true)
    (reserved : List String) (cs : List Char) (h : ∀ x ∈ cs, idc x = true) : ∀ x ∈ finishName reserved cs, idc x = true := by
  intro x hx
  cases cs with
  | nil => exact hb x hx
  | cons c rest =>
    rw [finishName_cons] at hx
    have hcs : ∀ y ∈ headFixed c rest, idc y = true := by
      intro y hy
      unfold headFixed at hy
      split at hy
      · exact h y hy
      · rcases List.mem_cons.mp hy with e | e
        · subst e; exact hu
        · exact h y e
    split at hx
    · rcases List.mem_append.mp hx with e | e
      · exact hcs x e
      · simp only [List.mem_singleton] at e; subst e; exact hu
    · exact hcs x hx

/-- **Proved: every character of the attribute name is an identifier character**, for every property name
    (any length, any code points), under `Faithful`. -/
theorem C12_partial_chars {ci : CharInfo} {idc : Char → Bool} (F : Faithful ci idc) (reserved : List String)
    (name : List Char) : ∀ x ∈ attrNameChars ci reserved name, idc x = true :=
  finishName_ok F.underscore F.blank reserved _ (replace_ok F.underscore _ (mapChars_ok F name none))

theorem headFixed_first (c : Char) (rest : List Char) :
    ∃ c' rest', headFixed c rest = c' :: rest' ∧ isFirstChar c' = true := by
  unfold headFixed
  by_cases hf : isFirstChar c = true
  · simp only [hf, if_true]; exact ⟨c, rest, rfl, hf⟩
  · simp only [hf]; exact ⟨'_', c :: rest, rfl, by decide⟩

theorem finishName_first (reserved : List String) (cs : List Char) :
    ∃ c rest, finishName reserved cs = c :: rest ∧ isFirstChar c = true := by
  cases cs with
  | nil => exact ⟨'b', "lank".toList, rfl, by decide⟩
  | cons c rest =>
    rw [finishName_cons]
    obtain ⟨c', rest', he, hf⟩ := headFixed_first c rest
    rw [he]
    split
    · exact ⟨c', rest' ++ ['_'], rfl, hf⟩
    · exact ⟨c', rest', rfl, hf⟩

/-- **Proved: the attribute name starts with an ASCII letter or `_`** (so it is non-empty and cannot start
    with a digit), for every property name. -/
theorem C12_first_char (ci : CharInfo) (reserved : List String) (name : List Char) :
    ∃ c rest, attrNameChars ci reserved name = c :: rest ∧ isFirstChar c = true :=
  finishName_first reserved _

/-- appending `_` to a reserved name never yields another reserved name (decided over the regenerated list:
    `dir(object) + keyword.kwlist + ["_dict", "__dict__", "__weakref__"]` of the target interpreter) -/
theorem reserved_suffix_free :
    Gen.reservedProperties.all (fun r => !Gen.reservedProperties.contains (r ++ "_")) = true := by decide +kernel

theorem finishName_not_reserved (cs : List Char) :
    Gen.reservedProperties.contains (String.ofList (finishName Gen.reservedProperties cs)) = false := by
  cases cs with
  | nil => decide +kernel
  | cons c rest =>
    rw [finishName_cons]
    generalize headFixed c rest = cs'
    by_cases hr : Gen.reservedProperties.contains (String.ofList cs') = true
    · simp only [hr, if_true]
      have := List.all_eq_true.mp reserved_suffix_free (String.ofList cs') (by simpa using hr)
      have e : String.ofList (cs' ++ ['_']) = String.ofList cs' ++ "_" := by
        simp [String.ofList_append]
      rw [e]
      simpa using this
    · simp only [hr]
      simpa using hr

/-- **Proved: the attribute name is never a reserved attribute or keyword.** -/
theorem C12_not_reserved (ci : CharInfo) (name : String) :
    Gen.reservedProperties.contains (attrName ci Gen.reservedProperties name) = false :=
  finishName_not_reserved _

/-! ### witnesses of what the header lists as not proved (recorded findings) -/

def ci0 : CharInfo := { isalnum := isAsciiAlnum, uname := fun _ => "unknown" }

/-- finding C12-collapse: three different JSON names, one attribute name -/
theorem counter_collapse :
    attrName ci0 Gen.reservedProperties "a b" = "a_b" ∧ attrName ci0 Gen.reservedProperties "a-b" = "a_b" ∧
    attrName ci0 Gen.reservedProperties "a_b" = "a_b" := by
  refine ⟨by decide +kernel, by decide +kernel, by decide +kernel⟩

/-- finding C12-empty-name: the empty JSON name becomes `blank` (and `bind` then drops the empty source) -/
theorem counter_empty : attrName ci0 Gen.reservedProperties "" = "blank" := by decide +kernel

/-- finding C12-titles: titles without an ASCII letter format to the empty class name; `none` to `None`, `property` to
    `Property`, the imported name -/
theorem counter_titles : titleFormat "123" = "" ∧ titleFormat "é" = "" ∧ titleFormat "none" = "None" ∧
    titleFormat "property" = "Property" := by
  refine ⟨by decide +kernel, by decide +kernel, by decide +kernel, by decide +kernel⟩

/-- non-vacuity: a renamed keyword and a name with a leading digit, evaluated in the kernel -/
example : attrName ci0 Gen.reservedProperties "class" = "class_" ∧ attrName ci0 Gen.reservedProperties "1st" = "_1st" := by
  refine ⟨by decide +kernel, by decide +kernel⟩

end Statham.C12
