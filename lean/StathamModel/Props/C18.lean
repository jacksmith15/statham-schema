/-
  C18 — an element's repr is the expression that rebuilds it.

  `reprExpr` (Py/Repr.lean) models `custom_repr`, `_Property.__repr__` and `ObjectMeta.__repr__` as an expression AST;
  `evalV` (Py/EvalTree.lean) models `eval` of such an expression: arguments first, then the constructor named by the
  call, which refuses a keyword that is not a keyword-only parameter of its regenerated signature.  Proved: evaluating
  the repr of a tree that is well formed for the namespace gives the tree back (`C18_round_trip_tree`), likewise for a
  property wrapper; a keyword is printed exactly when it differs from the constructor default, and only keywords of the
  class's own signature are printed.  Left to the comparison with the real code: the text level (quoting, how literals
  print), and that `evalV` agrees with the real `eval` (its verdict `evalBack` is compared on every generated tree).
-/
import StathamModel.Py.Repr
import StathamModel.Py.Eval
import StathamModel.Lemmas.EvalTree
-- imported so that building and auditing this module re-checks the tie
import StathamModel.Tie
namespace Statham.C18
open Statham Statham.PyEval

/-- a keyword is printed exactly when it differs from the constructor default: it is absent from the
    keyword arguments iff `kwExpr` is `none` for it -/
theorem kwargs_complete (sig : List Gen.Param) (kw : Kw) (k : ReprKids) (name : String)
    (hsig : ∃ p ∈ sig, p.name = name ∧ p.kind = .keywordOnly) :
    (∃ e, (name, e) ∈ kwargsOf sig kw k) ↔ (kwExpr kw k name).isSome = true := by
  simp only [mem_kwargsOf, hsig, true_and, Option.isSome_iff_exists]

/-- only keyword-only parameters of the class's own signature are ever printed as keywords -/
theorem kwargs_sound (sig : List Gen.Param) (kw : Kw) (k : ReprKids) (name : String) (e : PyExpr)
    (h : (name, e) ∈ kwargsOf sig kw k) : ∃ p ∈ sig, p.name = name ∧ p.kind = .keywordOnly :=
  (mem_kwargsOf.mp h).1

/-- `source` is printed exactly when it differs from the attribute name -/
theorem prop_source_shown (k : Key) (e : PyExpr) :
    (∃ x, propExpr k e = .call "Property" [e] x ∧ ((∃ s, ("source", s) ∈ x) ↔ k.src ≠ k.name)) := by
  unfold propExpr
  refine ⟨_, rfl, ?_⟩
  by_cases hs : k.src == k.name
  · have : k.src = k.name := by simpa using hs
    cases k.required <;> simp [this]
  · have : k.src ≠ k.name := by simpa using hs
    cases k.required <;> simp [hs, this]

/-- `String(...)`: all 2^8 combinations of passed / not passed keywords, every keyword value -/
theorem C18_round_trip_string (d c : Option JVal) (e : Option (List JVal)) (f p : Option String) (mn mx : Option Num)
    (ds : Option String) :
    evalLeaf (reprExpr (Elem.leaf .string
        { default := d, const := c, enum := e, format := f, pattern := p, minLength := mn, maxLength := mx, description := ds })) =
      some (Elem.leaf .string
        { default := d, const := c, enum := e, format := f, pattern := p, minLength := mn, maxLength := mx, description := ds }) :=
  evalLeaf_reprCore .string _ rfl rfl

theorem C18_round_trip_numeric (cls : Cls) (hc : cls = .integer ∨ cls = .number) (d c : Option JVal) (e : Option (List JVal))
    (a b x y m : Option Num) (ds : Option String) :
    evalLeaf (reprExpr (Elem.leaf cls
        { default := d, const := c, enum := e, minimum := a, maximum := b, exclusiveMinimum := x, exclusiveMaximum := y,
          multipleOf := m, description := ds })) =
      some (Elem.leaf cls
        { default := d, const := c, enum := e, minimum := a, maximum := b, exclusiveMinimum := x, exclusiveMaximum := y,
          multipleOf := m, description := ds }) := by
  rcases hc with rfl | rfl
  · exact evalLeaf_reprCore .integer _ rfl rfl
  · exact evalLeaf_reprCore .number _ rfl rfl

theorem C18_round_trip_basic (cls : Cls) (hc : cls = .boolean ∨ cls = .null) (d c : Option JVal) (e : Option (List JVal))
    (ds : Option String) :
    evalLeaf (reprExpr (Elem.leaf cls { default := d, const := c, enum := e, description := ds })) =
      some (Elem.leaf cls { default := d, const := c, enum := e, description := ds }) := by
  rcases hc with rfl | rfl
  · exact evalLeaf_reprCore .boolean _ rfl rfl
  · exact evalLeaf_reprCore .null _ rfl rfl

/-- every keyword of a generic `Element` that does not hold a sub-element -/
def _root_.Statham.leafKw (d c : Option JVal) (e : Option (List JVal)) (tuple addI : Bool) (mnI mxI : Option Num) (uniq : Bool)
    (a b x y m : Option Num) (f p : Option String) (mnL mxL : Option Num) (req : Option (List String))
    (hp hpp addP : Bool) (mnP mxP : Option Num) (hd : Bool) (ds : Option String) : Kw :=
  { default := d, const := c, enum := e, itemsKind := (if tuple then ItemsKind.tuple else ItemsKind.none), addItemsB := addI,
    minItems := mnI, maxItems := mxI, uniqueItems := uniq, minimum := a, maximum := b, exclusiveMinimum := x,
    exclusiveMaximum := y, multipleOf := m, format := f, pattern := p, minLength := mnL, maxLength := mxL, required := req,
    hasProps := hp, hasPatProps := hpp, addPropsB := addP, minProperties := mnP, maxProperties := mxP, hasDeps := hd,
    description := ds }

/-- a generic `Element(...)` without sub-elements: all 25 keyword slots (`default`, `const`, `enum`, 11 numbers, 3 strings,
    `required`, and 7 flags, four of which print as empty `items` / `properties` / `patternProperties` / `dependencies`),
    every combination -/
theorem C18_round_trip_element_leaf (d c : Option JVal) (e : Option (List JVal)) (tuple addI : Bool) (mnI mxI : Option Num)
    (uniq : Bool) (a b x y m : Option Num) (f p : Option String) (mnL mxL : Option Num) (req : Option (List String))
    (hp hpp addP : Bool) (mnP mxP : Option Num) (hd : Bool) (ds : Option String) :
    evalLeaf (reprExpr (Elem.leaf .element (leafKw d c e tuple addI mnI mxI uniq a b x y m f p mnL mxL req hp hpp addP mnP mxP hd ds))) =
      some (Elem.leaf .element (leafKw d c e tuple addI mnI mxI uniq a b x y m f p mnL mxL req hp hpp addP mnP mxP hd ds)) :=
  evalLeaf_reprCore .element _ rfl
    { single := by cases tuple <;> nofun, noItems := fun _ => rfl, addItems := nofun, addProps := nofun, noProps := fun _ => rfl,
      noPats := fun _ => rfl, noDeps := fun _ => rfl, propKeys := nofun, patKeys := nofun, depKeys := nofun, noElements := rfl }

/-! `WF env e` (Lemmas/EvalTree): every object class of the tree is in the namespace `env` under its printed name, and every
other node holds exactly what its class's constructor takes, in the form the constructor leaves it in (`NodeOK`: container
keywords consistent with their flags, bound properties, no keyword of another class).  No bound on depth or width. -/

/-- **C18** for trees: `eval(repr(e), namespace)` rebuilds `e` itself — nested elements, tuple and single `items`, property
    dictionaries with renamed and required properties, pattern properties, both forms of `dependencies`, compositions and
    `Not`, object classes looked up by name -/
theorem C18_round_trip_tree (env : String → Option Elem) (e : Elem) (h : WF env e) :
    evalElem env (reprExpr e) = some e := by
  unfold evalElem
  rw [eval_repr env e h]

/-- a property wrapper evaluates to the wrapper: same element, same `required`, and a `source` that binds to the same JSON name -/
theorem C18_round_trip_property (env : String → Option Elem) (k : Key) (e : Elem) (h : WF env e) :
    evalV env (propExpr k (reprExpr e)) =
      some (.prop k.required (if k.src == k.name then none else some k.src) e) ∧
    boundSource k.name (if k.src == k.name then none else some k.src) = k.src :=
  ⟨evalV_propExpr env k _ e (eval_repr env e h), boundSource_key k⟩

def sampleObj : Elem :=
  .mk (.object "Pet") { hasProps := true } [] none none
    [({ name := "name", required := true, source := some "name" }, Elem.leaf .string)] [] none none [] []
def sampleTree : Elem :=
  .mk .element { hasProps := true, hasPatProps := true, addPropsB := false, itemsKind := .tuple, hasDeps := true } [Elem.leaf .integer { minimum := some (.int 0) }, sampleObj]
    none (some (Elem.leaf .null)) 
    [({ name := "class_", required := true, source := some "class" },
       .mk .array { itemsKind := .single, minItems := some (.int 1) } [sampleObj] none none [] [] none none [] []),
     ({ name := "x", source := some "x" }, Elem.compose .anyOf [Elem.leaf .string { maxLength := some (.int 3) }, Elem.leaf .null] (some .null))]
    [({ name := "^a" }, .mk .not {} [] none none [] [] none none [] [Elem.leaf .boolean])] none none
    [({ name := "a", names := some ["b"] }, Elem.trivial), ({ name := "c" }, Elem.leaf .number)] []
def sampleEnv : String → Option Elem := fun n => if n = "Pet" then some sampleObj else none

/-- the hypotheses are met by a tree with nesting, a renamed required property, a tuple, a composition and an object class -/
example : WF sampleEnv sampleTree := by
  simp [WF, WFL, WFO, WFK, WFD, sampleTree, sampleObj, sampleEnv, NodeOK, Elem.leaf, Elem.compose, Elem.trivial]
  -- left: `ElementOK` of the root and `ArrayOK` of the array under `class_`, field by field
  refine ⟨?_, ?_⟩ <;> constructor <;> simp [BoundKey, PatKey, DepOK, Key.src, Elem.trivial, Elem.leaf]

/-- the executable form the driver reports (`namespaceOf` = the tree's own object classes), evaluated in the kernel -/
example : evalBack sampleTree = true := by decide +kernel

example :
    (match reprExpr (Elem.mk .array { itemsKind := .single, minItems := some (.int 1), addItemsB := false }
        [Elem.leaf .string { maxLength := some (.int 3) }] none none [] [] none none [] []) with
     | .call "Array" [.call "String" [] [("maxLength", .lit (.num (.int 3)))]]
         [("additionalItems", .lit (.bool false)), ("minItems", .lit (.num (.int 1)))] => true
     | _ => false) = true := by decide +kernel

end Statham.C18
