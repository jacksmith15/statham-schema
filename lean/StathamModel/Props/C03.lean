/-
  C03 — JSON Schema serialization preserves the meaning of any element tree.
  Structure theorems (every reference resolves) on the JSON-level model `serElem`, and the meaning clause
  (`C03_partial_meaning`) on the schema-level model `toSchema` (StathamModel/ToSchema.lean: the same serializer with the
  encoding step removed and `$ref`s followed; tied to the real `serialize_json` by the driver op `to_schema`).
-/
import StathamModel.Lemmas.ParseNF
import StathamModel.Lemmas.SerSem
import StathamModel.Lemmas.EqRefl
-- imported so that building and auditing this module re-checks the tie
import StathamModel.Tie
namespace Statham.C03
open Statham

theorem mem_objectClasses {root e : Elem} (h : e ∈ descendants root) (hc : isObjectClass e.cls = true) :
    e ∈ objectClasses [root] := by
  unfold objectClasses
  refine List.mem_filter.mpr ⟨?_, hc⟩
  simp only [List.map_cons, List.map_nil, List.flatten_cons, List.flatten_nil, List.append_nil]
  exact List.mem_append_right _ h

theorem mem_keys_dictSet {α} {d : List (String × α)} {k k' : String} {v : α} :
    k' ∈ (dictSet d k v).map (·.1) ↔ k' = k ∨ k' ∈ d.map (·.1) := by
  induction d with
  | nil => simp [dictSet]
  | cons p d ih =>
    obtain ⟨k2, v2⟩ := p
    by_cases e : k = k2
    · simp [dictSet, e]
    · simp only [dictSet, e, if_false, List.map_cons, List.mem_cons, ih, or_left_comm]

theorem mem_keys_foldl_dictSet {α β} (skip : β → Bool) (key : β → String) (val : β → α) (k : String) :
    ∀ (l : List β) (acc : List (String × α)), (k ∈ acc.map (·.1) ∨ ∃ x ∈ l, skip x = false ∧ key x = k) →
      k ∈ (l.foldl (fun d x => if skip x then d else dictSet d (key x) (val x)) acc).map (·.1)
  | [], _, h => h.elim id fun ⟨_, hx, _⟩ => nomatch hx
  | x :: xs, acc, h => by
    refine mem_keys_foldl_dictSet skip key val k xs _ ?_
    show k ∈ (if skip x then acc else dictSet acc (key x) (val x)).map (·.1) ∨ _
    rcases h with h | ⟨y, hy, hs, rfl⟩
    · left; split
      · exact h
      · exact mem_keys_dictSet.mpr (Or.inr h)
    · rcases List.mem_cons.mp hy with rfl | hy
      · left; rw [hs]; exact mem_keys_dictSet.mpr (Or.inl rfl)
      · exact Or.inr ⟨y, hy, hs, rfl⟩

/-- **References resolve.** Every object class below the serialized root that is not the primary gets an
    entry in `definitions` under the very name its `$ref`s use. -/
theorem definitions_complete (root : Elem) (defs : List (String × Elem)) (e : Elem)
    (h : e ∈ descendants root) (hc : isObjectClass e.cls = true) (hp : isPrimary root e = false) :
    objName e.cls ∈ ((objectClasses [root]).foldl (fun d oc =>
        if isPrimary root oc then d else dictSet d (objName oc.cls) (serElem (some root) defs oc)) ([] : List (String × JVal))).map (·.1) :=
  mem_keys_foldl_dictSet _ _ _ _ _ _ (Or.inr ⟨e, mem_objectClasses h hc, hp, rfl⟩)

/-- a child that is an object class other than the top-level one is serialized as a reference to its own name -/
theorem class_child_is_ref (root : Option Elem) (defs : List (String × Elem)) (e : Elem) (body : JVal)
    (hc : isObjectClass e.cls = true) (hr : isRoot root e = false) :
    childRef root defs e body = refTo (objName e.cls) := by
  simp [childRef, hc, hr]

/-- a child that is the top-level class itself is serialized as `{"$ref": "#"}`, which always resolves -/
theorem root_child_is_hash (root : Option Elem) (defs : List (String × Elem)) (e : Elem) (body : JVal)
    (hc : isObjectClass e.cls = true) (hr : isRoot root e = true) :
    childRef root defs e body = refRoot := by
  simp [childRef, hc, hr]

/-- **Every class reference resolves** (no hypothesis on which class is the primary): a class below the serialized root is
    written either as `#` or as a reference to a name that is a key of `definitions` -/
theorem class_reference_resolves (root : Elem) (defs : List (String × Elem)) (e : Elem) (body : JVal)
    (h : e ∈ descendants root) (hc : isObjectClass e.cls = true) :
    childRef (some root) defs e body = refRoot ∨
    (childRef (some root) defs e body = refTo (objName e.cls) ∧
      objName e.cls ∈ ((objectClasses [root]).foldl (fun d oc =>
        if isPrimary root oc then d else dictSet d (objName oc.cls) (serElem (some root) defs oc)) ([] : List (String × JVal))).map (·.1)) := by
  cases hp : isPrimary root e with
  | true => exact Or.inl (root_child_is_hash (some root) defs e body hc hp)
  | false => exact Or.inr ⟨class_child_is_ref (some root) defs e body hc hp, definitions_complete root defs e h hc hp⟩

/-- a child that equals one of the caller's definitions (and is not a class) is serialized as a reference to that
    definition's name -/
theorem definition_child_is_ref (root : Option Elem) (defs : List (String × Elem)) (e : Elem) (body : JVal)
    (hc : isObjectClass e.cls = false)
    (d : String × Elem) (hf : defs.find? (fun d => elemEq d.2 e) = some d) : childRef root defs e body = refTo d.1 := by
  simp [childRef, hc, hf]

/-- **References to caller-supplied definitions resolve**: every name in the caller's `definitions` mapping is a key of
    the document's `definitions`, whatever classes were added before -/
theorem caller_definitions_present (root : Option Elem) (defs : List (String × Elem)) (classDefs : List (String × JVal)) (d : String × Elem)
    (hd : d ∈ defs) :
    d.1 ∈ (defs.foldl (fun acc kv => dictSet acc kv.1 (serElem root defs kv.2)) classDefs).map (·.1) :=
  mem_keys_foldl_dictSet (fun _ => false) (·.1) (fun kv => serElem root defs kv.2) _ _ _ (Or.inr ⟨d, hd, rfl, rfl⟩)

/-- **The property's meaning clause at full strength**: the serialized document accepts exactly the values the tree
    accepts, for every well-formed tree.  As written the waiver `ℓ` may depend on the value; the theorems below fix
    `ℓ = typeHasObject`. -/
def MeaningStatement : Prop :=
  ∀ (env : Env) (cx : PCtx) (e : Elem) (v : JVal), wfElem e = true → distinctKeys v = true →
    ∃ ℓ : SKw → Bool, e.accepts env v = D6.valid env ℓ (toSchema e) v

/-- **Proved: the meaning clause for every tree in the parser's normal form** (`NF`: at every node, the parser given
    the node's own keywords and children builds that node — in particular every tree the parser returns and
    serializes back unchanged) whose serialization meets the `Good` conditions of C01 (so what is inherited from
    C01's findings is visible as a hypothesis, not hidden): for every value and every regex/format environment, if the
    call stays inside the arithmetic domain, the tree accepts the value exactly when Draft 6 says the serialized
    document does.  Trees written in the DSL with attribute names of one's own choosing are covered by
    `C03_partial_meaning_renamed` below.  `NF` is what the proof technique covers, not a known defect of the
    serializer outside it.  Left to correspondence and oracle: other trees that are not parser images (`AllOf` of one
    member that is not a class, an `Array` whose `items` is `NotPassed()`), `$ref` bookkeeping (the structure theorems
    above), caller-supplied definitions. -/
theorem C03_partial_meaning (env : Env) (cx : PCtx) (e : Elem) (v : JVal)
    (hn : NF cx e) (hg : Good cx (toSchema e) = true) (hv : distinctKeys v = true)
    (hnc : e.call env (.val v) ≠ .crash) :
    e.accepts env v = D6.valid env typeHasObject (toSchema e) v :=
  accepts_of_rel ((ser_ok env cx e hn hg).1 v hv) hnc

/-- **Every tree the parser returns** from a schema meeting the decidable source conditions `nfGood` (Lemmas/ParseNF.lean; what each conjunct excludes is listed at `C06_round_trip`) is in
    normal form (`parse_NF`), so for parsed trees the meaning clause needs no hypothesis on the tree. -/
theorem C03_meaning_parsed (env : Env) (cx : PCtx) (s : Schema) (v : JVal)
    (hn : nfGood cx s = true) (hg : Good cx (toSchema (parseE cx s)) = true) (hv : distinctKeys v = true)
    (hnc : (parseE cx s).call env (.val v) ≠ .crash) :
    (parseE cx s).accepts env v = D6.valid env typeHasObject (toSchema (parseE cx s)) v :=
  C03_partial_meaning env cx _ v (parse_NF cx s hn) hg hv hnc

/-- **Renamed properties.**  The same conclusion for every tree in normal form *up to the attribute names of properties*
    (`NFn`: at every node, the parser's rebuilt node and the node agree once property keys are reduced to JSON name and
    `required` flag) — the trees one writes in the DSL with attribute names of one's own choosing
    (`kind = Property(String(), source="class")`).  Proof: `acc_forget` (verdicts ignore attribute names: the element looks a
    member up by the property's JSON name, the attribute name only labels the result) turns the syntactic equation into the
    semantic node equation `NFS`, which is all `ser_ok_sem` asks of a node. -/
theorem C03_partial_meaning_renamed (env : Env) (cx : PCtx) (e : Elem) (v : JVal)
    (hn : NFn cx e) (hg : Good cx (toSchema e) = true) (hv : distinctKeys v = true)
    (hnc : e.call env (.val v) ≠ .crash) :
    e.accepts env v = D6.valid env typeHasObject (toSchema e) v :=
  accepts_of_rel ((ser_ok_sem env cx e (NFS_of_NFn env cx e hn) hg).1 v hv) hnc

/-- the form the driver evaluates: `nfnBool` is an executable test (structural comparison `Elem.same`, proved sound), so a tree
    the driver classifies as inside the region *is* inside the hypothesis -/
theorem C03_meaning_decidable (env : Env) (cx : PCtx) (e : Elem) (v : JVal)
    (hn : nfnBool cx e = true) (hg : Good cx (toSchema e) = true) (hv : distinctKeys v = true)
    (hnc : e.call env (.val v) ≠ .crash) :
    e.accepts env v = D6.valid env typeHasObject (toSchema e) v :=
  C03_partial_meaning_renamed env cx e v (nfnBool_sound cx e hn) hg hv hnc

/-- what `ser_ok_sem` proves: it asks the node equation on verdicts only (`NFS`), which `NFn` implies (`NFS_of_NFn`) -/
theorem C03_partial_meaning_sem (env : Env) (cx : PCtx) (e : Elem) (v : JVal)
    (hn : NFS env cx e) (hg : Good cx (toSchema e) = true) (hv : distinctKeys v = true)
    (hnc : e.acc env (.val v) ≠ .crash) :
    e.accV env v = V.ofBool (D6.valid env typeHasObject (toSchema e) v) :=
  ((ser_ok_sem env cx e hn hg).1 v hv).eq_of_ne_crash hnc

/-! non-vacuity: a class with a required array-valued property is in normal form and its serialization is `Good` -/
def ci0 : CharInfo := { isalnum := isAsciiAlnum, uname := fun _ => "unknown" }
def cx0 : PCtx := { ci := ci0 }
def eInt : Elem := Elem.leaf .integer { minimum := some (.int 1) }
def eArr : Elem := .mk .array { itemsKind := .single, uniqueItems := true } [eInt] none none [] [] none none [] []
def eObj : Elem := .mk (.object "A") { hasProps := true, addPropsB := false } [] none none
  [({ name := "p", required := true, source := some "p" }, eArr)] [] none none [] []
theorem nf_obj : NF cx0 eObj := nfBool_sound cx0 eObj (by decide +kernel)
theorem good_obj : Good cx0 (toSchema eObj) = true := by decide +kernel

/-! non-vacuity for the renamed form: `kind = Property(String(), source="class")` is not a parser image (the parser would call
    the attribute `class_`), yet it is in normal form up to names -/
def eStr : Elem := Elem.leaf .string
def eRenamed : Elem := .mk (.object "A") { hasProps := true } [] none none
  [({ name := "kind", required := true, source := some "class" }, eStr)] [] none none [] []
theorem nfn_renamed : NFn cx0 eRenamed := nfnBool_sound cx0 eRenamed (by decide +kernel)
theorem good_renamed : Good cx0 (toSchema eRenamed) = true := by decide +kernel
/-- reading the node back, the parser names the attribute `class_`, not `kind`; so `eRenamed` is outside `NF` (the theorem
    states the rebuilt name only) -/
theorem not_nf_renamed : (assembleK cx0 (nodeSKw eRenamed.cls eRenamed.kw eRenamed.props) (nodeKids eRenamed)).props.map (·.1.name) = ["class_"] := by
  decide +kernel

/-- why `C03_partial_meaning` asks for `Good`: the C01 counter-witnesses carry over, e.g. a float `multipleOf` — the
    tree accepts 4, the document read by Draft 6 does not -/
theorem counter_inherits_float_multipleOf :
    (Elem.leaf .element { multipleOf := some (.flt 3602879701896397 36028797018963968) }).accepts
        { re := fun _ _ => false, fmt := fun _ => none } (.num (.int 4)) = true ∧
    (∀ b : Bool, D6.valid { re := fun _ _ => false, fmt := fun _ => none } (fun _ => b)
        (toSchema (Elem.leaf .element { multipleOf := some (.flt 3602879701896397 36028797018963968) })) (.num (.int 4)) = false) := by
  refine ⟨by decide +kernel, fun b => by cases b <;> decide +kernel⟩

/-- `Nothing()` as the first element has no schema dictionary (finding C03-nothing-root) -/
theorem counter_nothing_root :
    (match serializeJson [Elem.nothing] [] with
     | .error .primaryIsFalse => true
     | _ => false) = true := by decide +kernel

end Statham.C03
