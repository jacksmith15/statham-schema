/-
  C06 — serialize-then-parse is the identity on statham's normal form.
  The pieces both directions share (one generated keyword table), and the round trip itself on the schema-level
  model of the serializer (`toSchema`, StathamModel/ToSchema.lean; tied to the real `serialize_json` by the driver op
  `to_schema`): `C06_round_trip`, `C06_fixpoint`, `C06_iterate` under the decidable hypothesis `nfGood` on the source
  schema alone, and their `_partial_` forms under `NF` on the tree.
-/
import StathamModel.Lemmas.ParseNF
import StathamModel.Lemmas.SerParses
import StathamModel.Lemmas.ElemBeq
-- imported so that building and auditing this module re-checks the tie
import StathamModel.Tie
namespace Statham.C06
open Statham

/-- the keyword set the serializer walks is exactly the keyword set `_keyword_filter(Element)` lets the
    parser pass through: both are read off the same generated signature, so a keyword known to one side
    only changes this table and breaks the tie -/
theorem shared_keyword_table :
    (Gen.sigElement.filter fun p => p.kind == .keywordOnly).map (·.name) = Gen.Param.names Gen.sigElement := by
  rfl

/-- that this list is the arms of `kwField` is checked by eye only -/
def emits (name : String) : Bool :=
  ["default", "const", "enum", "items", "additionalItems", "minItems", "maxItems", "uniqueItems", "contains",
   "minimum", "maximum", "exclusiveMinimum", "exclusiveMaximum", "multipleOf", "format", "pattern", "minLength",
   "maxLength", "required", "properties", "patternProperties", "additionalProperties", "minProperties",
   "maxProperties", "propertyNames", "dependencies", "description"].contains name

theorem serializer_covers_signature : (Gen.Param.names Gen.sigElement).all emits = true := by rfl

def cx0 : PCtx := { ci := { isalnum := isAsciiAlnum, uname := fun _ => "unknown" } }

/-- `{}` ↔ `Element()` and `false` ↔ `Nothing()`: the base cases of the round trip -/
theorem trivial_round_trip :
    (match serElem none [] (parseE cx0 Schema.empty), serElem none [] (parseE cx0 (.bool false)) with
     | .obj [], .bool false => true
     | _, _ => false) = true := by decide +kernel

/-- a schema in normal form and its round trip, evaluated in the kernel:
    `{"type":"array","items":{"type":"integer","minimum":1},"uniqueItems":true}` -/
theorem example_fixpoint :
    (match serElem none [] (parseE cx0 (.mk { type := .single "array", itemsKind := .single, uniqueItems := some true }
        [Schema.leaf { type := .single "integer", minimum := some (.int 1) }] none none [] [] none none [] [] [] [] none)) with
     | .obj [("items", .obj [("minimum", .num (.int 1)), ("type", .str "integer")]), ("uniqueItems", .bool true),
             ("type", .str "array")] => true
     | _ => false) = true := by decide +kernel

/-- **The property at full strength** (JSON leg): after the first parse, serialize-then-parse changes nothing. -/
def Statement : Prop :=
  ∀ (cx : PCtx) (s : Schema), parseErr s = none →
    parseE cx (toSchema (parseE cx s)) = parseE cx s

/-- **Proved: serialize-then-parse is the identity on normal-form trees.**  `NF cx e` says that at every node of `e`
    the parser, handed the node's own keywords and children, builds that node again (and that `Nothing()` carries
    nothing and does not sit in an `additional…` position, where `false` is read as the boolean).  Every keyword
    value, every default, every property flag and every class name comes back: the conclusion is equality of trees,
    not `==`. -/
theorem C06_partial_round_trip (cx : PCtx) (e : Elem) (h : NF cx e) : parseE cx (toSchema e) = e :=
  parse_toSchema cx e h

/-- the form the driver evaluates (`nfBool`: executable, proved sound) -/
theorem C06_round_trip_decidable (cx : PCtx) (e : Elem) (h : nfBool cx e = true) : parseE cx (toSchema e) = e :=
  parse_toSchema cx e (nfBool_sound cx e h)

/-- **Proved: the fixpoint form of the property** — once the first parse has produced a normal-form tree, the
    second serialization is the identical document, and so is every later one.  That the first parse lands in normal
    form is `parse_NF`, under `nfGood` on the source (`C06_fixpoint`); beyond that the driver evaluates
    `NF (parseE cx s)` on every generated schema.  Outside `NF` lie the recorded findings of C06 (empty keyword beside
    composition, `Nothing` with a default) and some trees no finding covers (an `additional…` position that parses to
    `Nothing()`: the document still round-trips, the tree does not).  Class-name suffixing is not in `parseE`; it lives
    in `Dedupe`. -/
theorem C06_partial_fixpoint (cx : PCtx) (s : Schema) (h : NF cx (parseE cx s)) :
    toSchema (parseE cx (toSchema (parseE cx s))) = toSchema (parseE cx s) := by
  rw [parse_toSchema cx _ h]

def roundTrips (cx : PCtx) : Nat → Elem → Elem
  | 0, e => e
  | n + 1, e => roundTrips cx n (parseE cx (toSchema e))

/-- and by induction any number of further round trips -/
theorem C06_partial_iterate (cx : PCtx) (e : Elem) (h : NF cx e) (n : Nat) : roundTrips cx n e = e := by
  induction n with
  | zero => rfl
  | succ n ih => rw [roundTrips, parse_toSchema cx e h, ih]

/-- **Proved: the property's JSON leg, with a decidable hypothesis on the source schema only.**  `nfGood cx s` asks of every
    schema object in `s`: clean literals; no empty `required` and `properties` present exactly when non-empty (finding
    C06-empty-keyword-beside-composition); distinct, non-collapsing, non-empty property names, no name twice in `required`;
    `type` over the seven type names; for object schemas a title that formats to itself (the title findings of C12; finding
    C06-class-name-suffixes is not excluded, `parseE` does no de-duplication);
    `additionalItems` / `additionalProperties` given as a schema do not parse to `Nothing()`; no default next to composition
    members that parse to `Nothing()` (finding C06-nothing-with-default / C07-reduces-to-nothing).  Then the first parse is
    in normal form (`parse_NF`: one node equation per shape the parser can build — untyped, five typed leaves, arrays,
    classes with synthetic required properties, type lists, `AllOf` / `AnyOf` / `OneOf` / `Not` with every collapse rule,
    and the migration of `default`), so serializing and parsing again gives the identical tree. -/
theorem C06_round_trip (cx : PCtx) (s : Schema) (h : nfGood cx s = true) :
    parseE cx (toSchema (parseE cx s)) = parseE cx s :=
  parse_toSchema cx _ (parse_NF cx s h)

/-- **Proved: the second parse does not raise.**  The serializer writes no unsupported keyword, only the seven type names and a
    title for every class, so `parse_element` on the serialized document returns — for every tree whose object classes have
    non-empty names (`toSchema_parses`, any tree, no normal-form hypothesis) — and what it returns is the first tree. -/
theorem C06_second_parse_succeeds (cx : PCtx) (s : Schema) (h : nfGood cx s = true) (hn : namedOK (parseE cx s) = true) :
    parseElement cx (toSchema (parseE cx s)) = .ok (parseE cx s) := by
  unfold parseElement
  rw [toSchema_parses _ hn, C06_round_trip cx s h]

/-- the second-round document is the first-round document, as is every later one (`C06_iterate`) -/
theorem C06_fixpoint (cx : PCtx) (s : Schema) (h : nfGood cx s = true) :
    toSchema (parseE cx (toSchema (parseE cx s))) = toSchema (parseE cx s) :=
  C06_partial_fixpoint cx s (parse_NF cx s h)

theorem C06_iterate (cx : PCtx) (s : Schema) (h : nfGood cx s = true) (n : Nat) :
    roundTrips cx n (parseE cx s) = parseE cx s :=
  C06_partial_iterate cx _ (parse_NF cx s h) n

/-- **The normal form means what the source means**: for a schema that meets the `Good` conditions of C01 and `nfGood`, and
    whose normal-form document meets `Good` again, Draft 6 reads both documents alike on every value on which the parsed
    element stays inside the arithmetic domain (C01_partial on the source, C03_partial_meaning on the normal form). -/
theorem C06_meaning_preserved (env : Env) (cx : PCtx) (s : Schema) (v : JVal)
    (hg : Good cx s = true) (hn : nfGood cx s = true) (hg' : Good cx (toSchema (parseE cx s)) = true)
    (hv : distinctKeys v = true) (hnc : (parseE cx s).acc env (.val v) ≠ .crash) :
    D6.valid env typeHasObject s v = D6.valid env typeHasObject (toSchema (parseE cx s)) v := by
  have h1 := ((parse_ok env cx s hg).1 v hv).eq_of_ne_crash hnc
  have h2 := ((ser_ok env cx (parseE cx s) (parse_NF cx s hn) hg').1 v hv).eq_of_ne_crash hnc
  exact Bool.eq_iff_iff.mpr (by rw [← V.ofBool_eq_pass, ← V.ofBool_eq_pass, ← h1, ← h2])

/-- non-vacuity: a class with a required undeclared name, an array property, a type list and composition with a default -/
def sEx : Schema :=
  .mk { type := .single "object", title := some "Order", required := some ["p", "ghost"], hasProps := true } [] none none
    [("p", .mk { type := .single "array", itemsKind := .single, uniqueItems := some true }
        [Schema.leaf { type := .single "integer", minimum := some (.int 1) }] none none [] [] none none [] [] [] [] none),
     ("q", .mk { hasAnyOf := true, default := some (.str "x") } [] none none [] [] none none []
        [Schema.leaf { type := .single "string" }, Schema.leaf { type := .list ["null", "boolean"] }] [] [] none),
     ("r", .mk { hasAllOf := true } [] none none [] [] none none [] [] []
        [Schema.leaf { minimum := some (.int 0) }, .mk {} [] none none [] [] none none [] [] [] [] (some (Schema.leaf { type := .single "null" }))] none)]
    [] (some (.bool false)) none [] [] [] [] none

theorem sEx_nfGood : nfGood cx0 sEx = true := by decide +kernel
theorem sEx_named : namedOK (parseE cx0 sEx) = true := by decide +kernel

/-- finding C06-nothing-with-default at the excluded point: `Nothing()` carrying a default is not in normal form, and the
    round trip indeed loses the default -/
theorem counter_nothing_default :
    (parseE cx0 (toSchema (Elem.leaf .nothing { default := some (.num (.int 1)) }))).kw.default = none := by
  decide +kernel

end Statham.C06
