/-
  C09 — code generation and serialization are deterministic across processes.

  The model's `parseDoc`, `emitModule`, `serializeJson` are functions of the document, so "same document,
  same output" holds in the model by construction.  What can make the *library* differ between processes is
  an iteration whose order comes from a hash table: over a `set`/`frozenset` (string hashes are seeded per
  process, class hashes follow memory addresses).  The translator lists every such iteration in /repo on
  this run (`Gen.iterSites`: for-loops, comprehensions, `list()`/`join()`/… over anything that is syntactically
  a set, a module- or function-level name bound to one, or set algebra on sets or dict views); this file
  accounts for each of them.  PARTIAL: the scan is syntactic; cross-process behaviour itself is observed by
  running the generator in subprocesses under different hash seeds.
-/
import StathamModel.Gen.Sites
import StathamModel.Gen.Constants
import StathamModel.Tie
namespace Statham.C09
open Statham

inductive Harmless where
  | intoSet          -- the elements go straight into another set: order cannot be observed
  | sortedAfter      -- the result is sorted before anything is emitted
  | validationOnly   -- decides which of several validation errors is reported first; never runs during generation
deriving DecidableEq, Repr

/-- every hash-ordered iteration of the library, with the reason it cannot reach generated output -/
def accounted : List (Gen.Site × Harmless) := [
  (⟨"statham/schema/validation/__init__.py", "_all_subclasses", "listcomp", "_all_subclasses(c)"⟩, .intoSet),
  (⟨"statham/schema/validation/__init__.py", "get_validators", "for", "_all_subclasses(Validator)"⟩, .validationOnly),
  (⟨"statham/serializers/python.py", "_get_element_imports", "listcomp",
    "set.union(*(_get_single_element_imports(element) for element in elements))"⟩, .sortedAfter)
]

/-- **Tie**: the hash-ordered iterations found in /repo on this run are exactly the accounted ones.  A new loop over
    a set (or a tuple constant turned into a set) in the parser or the serializers breaks this theorem. -/
theorem iterSites_accounted : Gen.iterSites = accounted.map (·.1) := by rfl

/-- none of them is in the parser, and the only one in a serializer is sorted before emission -/
theorem generation_path_ordered :
    (accounted.filter fun p => p.1.file == "statham/schema/parser.py" || p.1.file.startsWith "statham/serializers/").all
      (fun p => p.2 == .sortedAfter) = true := by decide +kernel

/-- the composition keywords, whose parse order decides which equally-titled class gets which suffix, are an ordered
    tuple and the parser's loop iterates that tuple (regenerated constants) -/
theorem composition_order_fixed :
    Gen.compositionKeywordsOrdered = true ∧
    Gen.compositionLoopIter = "(key for key in COMPOSITION_KEYWORDS if key != 'not')" :=
  ⟨Tie.compositionKeywords_ordered, Tie.compositionLoop_ordered⟩

end Statham.C09
