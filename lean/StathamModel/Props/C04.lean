/-
  C04 — an accepted value comes back complete and unaltered inside the model.

  The theorems describe one level of a successful call exactly; every level of the returned
  structure is again the result of a successful call of a sub-element on the corresponding
  part of the input, so they apply at every depth (the induction is `C04_tree`, Props/C04Tree.lean).
-/
import StathamModel.Lemmas.Results
-- imported so that building and auditing this module re-checks the tie
import StathamModel.Tie
namespace Statham.C04
open Statham

/-- `int` accepted by a `number` schema comes back as the equal float; below 2^53 the value is the same -/
theorem number_value (i : Int) (h : i.natAbs < 9007199254740992) :
    asDouble (.int i) = some (.flt i 1) ∧ Num.eqv (.flt i 1) (.int i) = true := by
  constructor
  · simp [asDouble, toDouble_small h]
  · simp [Num.eqv, Num.numer, Num.denom]

theorem float_value (n : Int) (d : Nat) : asDouble (.flt n d) = some (.flt n d) := rfl

/-- compositions return the construction of the first member that accepts -/
theorem attempt_first {mode : Cls} {rs : List Res} {r : RVal} (h : attempt mode rs = .ok r) :
    firstOk rs = some r := by
  unfold attempt at h
  split at h
  · cases h
  · cases hf : firstOk rs with
    | none => rw [hf] at h; cases h
    | some r' =>
      rw [hf] at h
      cases mode with
      | oneOf | allOf =>
        simp only at h
        split at h
        · cases h
        · cases h; rfl
      | _ => cases h; rfl

theorem firstOk_mem {rs : List Res} {r : RVal} (h : firstOk rs = some r) : Res.ok r ∈ rs := by
  induction rs with
  | nil => cases h
  | cons x xs ih =>
    cases x with
    | ok y => simp only [firstOk, Option.some.injEq] at h; subst h; exact List.mem_cons_self ..
    | reject => exact List.mem_cons_of_mem _ (ih h)
    | crash => exact List.mem_cons_of_mem _ (ih h)

/-- **Arrays keep their length and order**: item `i` of the result is the result of calling the element
    that governs position `i` on input item `i`. -/
theorem array_items {kw : Kw} {sub : Sub} {xs : List JVal} {rs : List RVal}
    (h : itemsCall kw sub xs = .ok (.arr rs)) :
    rs.length = xs.length ∧
    ∀ i (hi : i < xs.length), ∃ r, rs[i]? = some r ∧ itemCall resAlg kw sub i (.val xs[i]) = .ok r := by
  refine ⟨itemsCall_length h, fun i hi => ?_⟩
  have hok := congrArg (·[i]?) (itemsCall_ok h)
  simp only [itemsCallFrom_eq, List.getElem?_mapIdx, List.getElem?_map, List.getElem?_eq_getElem hi, Nat.zero_add,
    Option.map_some] at hok
  cases hr : rs[i]? with
  | none => rw [hr] at hok; cases hok
  | some r => rw [hr] at hok; exact ⟨r, rfl, Option.some.inj hok⟩

/-- **Objects: nothing is dropped.** Every member of the input appears in the result under its resolved name,
    holding the result of calling the element that governs it — provided the input has no key twice (`hkeys`) and
    no two visited keys resolve to one result name (`hdist`).  For a declared property the input omits see
    `propsCall_member` and `C05_partial_omitted`. -/
theorem object_members {env : Env} {kw : Kw} {sub : Sub} {kvs : List (String × JVal)} {L : List (String × RVal)}
    (h : propsCall env kw sub kvs = .ok (.anon L))
    (hdist : distinct ((propsOuts resAlg env kw sub kvs).map (·.1)) = true)
    (hkeys : distinct (kvs.map (·.1)) = true) {k : String} {x : JVal} (hm : (k, x) ∈ kvs) :
    ∃ r, (resolveCall resAlg env kw sub k (.val x)).2 = .ok r ∧
      dictGet? L (resolveCall resAlg env kw sub k (.val x)).1 = some r := by
  have := propsCall_member h hdist (mem_visitKeys.mpr (.inr (List.mem_map.mpr ⟨(k, x), hm, rfl⟩)))
  rwa [argOf_mem hkeys hm] at this

/-- **Objects: nothing is invented.** Every key of the result is the resolved name of an input member or
    of a declared property. -/
theorem object_keys {env : Env} {kw : Kw} {sub : Sub} {kvs : List (String × JVal)} {L : List (String × RVal)}
    (h : propsCall env kw sub kvs = .ok (.anon L)) {n : String} {r : RVal} (hn : dictGet? L n = some r) :
    ∃ k ∈ visitKeys sub kvs, (resolveCall resAlg env kw sub k (argOf kvs k)) = (n, .ok r) := by
  obtain ⟨l, hl, rfl⟩ := propsCall_ok h
  rw [dictOfList_get] at hn
  cases hf : l.reverse.find? (fun p => p.1 == n) with
  | none => rw [hf] at hn; cases hn
  | some q =>
    rw [hf] at hn
    simp only [Option.map_some, Option.some.injEq] at hn
    have hq : q ∈ l := List.mem_reverse.mp (List.mem_of_find?_eq_some hf)
    have hqn : q.1 = n := by simpa using List.find?_some hf
    have : (q.1, Res.ok q.2) ∈ propsOuts resAlg env kw sub kvs := by
      rw [hl]; exact List.mem_map.mpr ⟨q, hq, rfl⟩
    unfold propsOuts at this
    obtain ⟨k, hk, he⟩ := List.mem_map.mp this
    exact ⟨k, hk, by rw [he, hqn, hn]⟩

/-! ### counter-witnesses (complements of the hypotheses) -/

def env0 : Env := { re := fun _ _ => false, fmt := fun _ => none }

/-- finding C04-key-collision: `{"a b": 1, "a_b": 2}` against properties `a b` (attribute `a_b`): the
    declared value is overwritten by the additional member of the same name — one member is lost -/
theorem counter_key_collision :
    (match (Elem.mk .element { hasProps := true } [] none none
        [({ name := "a_b", source := some "a b" }, Elem.trivial)] [] none none [] []).call env0
        (.val (.obj [("a b", .num (.int 1)), ("a_b", .num (.int 2))])) with
     | .ok (.anon [("a_b", .num (.int 2))]) => true
     | _ => false) = true := by decide +kernel

/-- finding C04-int-precision: `Number()(2^53 + 1)` comes back as `2^53` -/
theorem counter_int_precision :
    (match (Elem.leaf .number).call env0 (.val (.num (.int 9007199254740993))) with
     | .ok (.num (.flt 9007199254740992 1)) => true
     | _ => false) = true := by decide +kernel

end Statham.C04
