/-
  C02 — generated Python models accept exactly what the source schema accepts.

  The generated module is modelled as an AST (`Py/Module.lean`): import groups, then one `ClassDef` per class
  in the orderer's order.  Proved here: no class is declared twice, and each after every class it depends
  on; a property is printed with the optional wrapper exactly when it is neither required nor defaulted;
  a printed class keyword is one of `ObjectMeta.__new__`'s that differs from its default, never `description`; every
  name a class statement refers to is imported or an earlier class (`C02_names_resolved`, for trees whose arrays have
  `items`, a single-schema `items` being non-empty: `ArraysOK`); executing a class statement in a namespace that holds
  the classes it refers to rebuilds the class itself, and executing the module emitted from trees in the form the
  constructors leave them in (`ModuleOK`) rebuilds every class (`C02_class_statement_rebuilds`,
  `C02_emitted_module_executes`, over the evaluator model `Py/EvalTree.lean` + `Py/EvalClass.lean`, which is tied to the
  real `exec` differentially).  The property's last sentence, acceptance against Draft 6, is in `Props/C02Draft6.lean`.
-/
import StathamModel.Py.Module
import StathamModel.Props.C11
import StathamModel.Lemmas.ReprNames
import StathamModel.Lemmas.AnnotNames
import StathamModel.Lemmas.EvalClass
import StathamModel.Lemmas.ModuleExec
-- imported so that building and auditing this module re-checks the tie
import StathamModel.Tie
namespace Statham.C02
open Statham

/-- the declared classes are the orderer's answer, in its order, restricted to classes that exist -/
theorem classes_follow_order (els : List Elem) (m : PyModule) (h : emitModule els = .ok m) :
    ∃ order, ordererTree els = .ok order ∧ m.classes = (order.filterMap (PyEval.lookupClass els)).map classDef := by
  unfold emitModule at h
  cases ho : ordererTree els with
  | error e => rw [ho] at h; cases h
  | ok order =>
    rw [ho] at h
    simp only [Except.ok.injEq] at h
    subst h
    exact ⟨order, rfl, (List.map_filterMap ..).symm⟩

/-- **At most one class statement per class**: no class name is declared twice. -/
theorem C02_declared_once (els : List Elem) (m : PyModule) (h : emitModule els = .ok m) :
    (m.classes.map (·.name)).Nodup := by
  obtain ⟨order, ho, hc⟩ := classes_follow_order els m h
  rw [hc]
  -- the names are a sublist of `order`
  have hsub : ∀ l : List String, (((l.filterMap (PyEval.lookupClass els)).map classDef).map (·.name)).Sublist l := by
    intro l
    induction l with
    | nil => exact .slnil
    | cons n r ih =>
      rw [List.filterMap_cons]
      cases hf : PyEval.lookupClass els n with
      | none => exact ih.cons _
      | some c =>
        simp only [List.map_cons, PyEval.classDef_name, (PyEval.lookupClass_spec hf).2]
        exact ih.cons_cons _
  exact (hsub order).nodup (C11.C11_order_sound _ order ho).1

/-- **Each class after everything it depends on**: if class `n` is declared at position `i` of the orderer's
    answer, every descendant class of `n` (as the orderer computes them) was declared before it. -/
theorem C02_dependencies_first (els : List Elem) (order : List String) (h : ordererTree els = .ok order)
    (i : Nat) (n : String) (hi : order[i]? = some n) :
    ∀ d ∈ descendantsOf (treeGraph els) n, d ∈ order.take i :=
  ((C11.C11_order_sound _ order h).2 i n hi).2

/-- a property line carries the optional wrapper exactly when the property is neither required nor defaulted -/
theorem C02_optional_wrapper (k : Key) (e : Elem) :
    propAnnot k e = (if k.required = true ∨ e.kw.default.isSome = true then annot e else .maybe (annot e)) := by
  unfold propAnnot
  by_cases h1 : k.required = true
  · simp [h1]
  · by_cases h2 : e.kw.default.isSome = true
    · simp [h2]
    · simp [h1, h2]

/-- a printed class keyword is a keyword-only parameter of `ObjectMeta.__new__` other than `description` (which becomes the
    docstring), and `kwExpr` prints it, that is, it differs from the constructor default; that every such keyword is
    printed is `C18.kwargs_complete` -/
theorem C02_class_keywords (e : Elem) (name : String) (x : PyExpr) (h : (name, x) ∈ (classDef e).kwargs) :
    name ≠ "description" ∧ (∃ p ∈ Gen.sigObjectMeta, p.name = name ∧ p.kind = .keywordOnly) ∧
      kwExpr e.kw (reprKidsOf e) name = some x := by
  simp only [classDef, List.mem_filter, bne_iff_ne, ne_eq, mem_kwargsOf] at h
  exact ⟨h.2, h.1.1, h.1.2⟩

/-- the imports of the module, in terms of the names its class statements use -/
theorem emitModule_imports (els : List Elem) (m : PyModule) (h : emitModule els = .ok m) :
    m.typing = ["Any", "List", "Union"].filter ((m.classes.map ClassDef.names).flatten.contains ·) ∧
    m.maybe = (m.classes.map ClassDef.names).flatten.contains "Maybe" ∧
    m.property = (m.classes.map ClassDef.names).flatten.contains "Property" ∧
    m.elements = sortDedupe ((els ++ (els.map descendants).flatten).map importName) := by
  unfold emitModule at h
  cases ho : ordererTree els with
  | error e => rw [ho] at h; cases h
  | ok order =>
    rw [ho] at h
    simp only [Except.ok.injEq] at h
    subst h
    exact ⟨rfl, rfl, rfl, rfl⟩

theorem allowed_of_classIn {pool : List Elem} {n : String} (h : ClassIn pool n) : Allowed pool n := by
  obtain ⟨d, hd, hobj, hn⟩ := h
  exact Or.inr ⟨d, hd, (printedName_object hobj).trans hn⟩

/-- what a class statement refers to: its base, the typing words and `Maybe` of its annotations, `Property`, and printed
    names of descendants of the class -/
theorem classDef_names (c : Elem) (hok : ArraysOK c) :
    ∀ n ∈ (classDef c).names, n = "Object" ∨ n = "Maybe" ∨ typingWord n ∨ Allowed (descendants c) n := by
  intro n hn
  simp only [ClassDef.names, List.mem_cons, List.mem_append] at hn
  rcases hn with hbase | hkw | hprops
  · exact Or.inl hbase
  · rw [PyEval.classDef_kwargs] at hkw
    exact Or.inr (Or.inr (Or.inr (kids_allowed c hok n (kwargsOf_names _ _ _ n hkw))))
  · -- a property line: the annotation and the `Property(...)` expression of a property `(k, e)` of `c`
    obtain ⟨l, hl, hnl⟩ := List.mem_flatten.mp hprops
    obtain ⟨pl, hpl, rfl⟩ := List.mem_map.mp hl
    simp only [classDef, List.mem_map] at hpl
    obtain ⟨⟨k, e⟩, hke, rfl⟩ := hpl
    have hsub := prop_in_descendants c hke
    rcases List.mem_append.mp hnl with hann | hexpr
    · rcases propAnnot_names k e n hann with h | h | h
      · exact Or.inr (Or.inl h)
      · exact Or.inr (Or.inr (Or.inl h))
      · exact Or.inr (Or.inr (Or.inr ((allowed_of_classIn h).mono hsub)))
    · rw [propExpr_names] at hexpr
      refine Or.inr (Or.inr (Or.inr ?_))
      rcases List.mem_cons.mp hexpr with hp | hx
      · exact Or.inl hp
      · exact (reprExpr_names e (arraysOK_prop hok hke) n hx).mono hsub

/-- **The module uses only what it imports or declares.**  For every class statement of the generated module and
    every name its source refers to — base class, class keywords, annotations and property expressions — the name
    is one of the imported typing words, `Maybe` / `Property` with the corresponding import present, an imported
    element class, or the name of a model class among the descendants of the class being declared (and those are
    declared earlier: `C11_declared_after_dependencies`).  `hok` (`ArraysOK`): an `Array` without `items` prints
    `NotPassed`, which the module does not import. -/
theorem C02_names_resolved (els : List Elem) (m : PyModule) (h : emitModule els = .ok m)
    (hok : ∀ c ∈ objectClasses els, ArraysOK c) :
    ∀ cd ∈ m.classes, ∀ n ∈ cd.names,
      n ∈ m.typing ∨ (n = "Maybe" ∧ m.maybe = true) ∨ (n = "Property" ∧ m.property = true) ∨ n ∈ m.elements ∨
      ∃ c ∈ objectClasses els, objName c.cls = cd.name ∧ n ∈ directClasses c := by
  obtain ⟨htyping, hmaybe, hproperty, helements⟩ := emitModule_imports els m h
  obtain ⟨order, _, hclasses⟩ := classes_follow_order els m h
  intro cd hcd n hn
  have hused : (m.classes.map ClassDef.names).flatten.contains n = true :=
    contains_iff_mem.mpr (List.mem_flatten.mpr ⟨_, List.mem_map.mpr ⟨cd, hcd, rfl⟩, hn⟩)
  -- the class this statement was printed from
  rw [hclasses] at hcd
  obtain ⟨c, hcm, rfl⟩ := List.mem_map.mp hcd
  obtain ⟨nm, _, hl⟩ := List.mem_filterMap.mp hcm
  have hc : c ∈ objectClasses els := (PyEval.lookupClass_spec hl).1
  obtain ⟨hpool, hobj⟩ := List.mem_filter.mp hc
  have imported : ∀ d ∈ els ++ (els.map descendants).flatten, importName d ∈ m.elements := fun d hd =>
    helements ▸ mem_sortDedupe.mpr (List.mem_map.mpr ⟨d, hd, rfl⟩)
  rcases classDef_names c (hok c hc) n hn with rfl | rfl | hw | rfl | ⟨d, hd, rfl⟩
  · have := imported c hpool
    rw [importName_eq, hobj] at this
    exact Or.inr (Or.inr (Or.inr (Or.inl this)))
  · exact Or.inr (Or.inl ⟨rfl, hmaybe ▸ hused⟩)
  · rw [htyping]
    refine Or.inl (List.mem_filter.mpr ⟨?_, hused⟩)
    rcases hw with rfl | rfl | rfl <;> simp
  · exact Or.inr (Or.inr (Or.inl ⟨rfl, hproperty ▸ hused⟩))
  · -- the printed name of a descendant `d`: a class the statement depends on, or an imported element class
    by_cases hdo : isObjectClass d.cls = true
    · refine Or.inr (Or.inr (Or.inr (Or.inr ⟨c, hc, rfl, ?_⟩)))
      rw [printedName_object hdo]
      exact List.mem_map.mpr ⟨d, List.mem_filter.mpr ⟨hd, hdo⟩, rfl⟩
    · have := imported d (mem_pool_of_desc els c d hpool hd)
      rw [importName_eq, if_neg hdo] at this
      exact Or.inr (Or.inr (Or.inr (Or.inl this)))

/-! ### evaluated in the kernel: a parent with a nested class, as the generator emits it -/

def child : Elem := .mk (.object "Child") { hasProps := true } [] none none
  [({ name := "id", required := true, source := some "id" }, Elem.leaf .string)] [] none none [] []
def root : Elem := .mk (.object "Root") { hasProps := true, addPropsB := false, description := some "The root." } [] none none
  [({ name := "child", source := some "child" }, child),
   ({ name := "tags", source := some "tags" }, .mk .array { itemsKind := .single } [Elem.leaf .string] none none [] [] none none [] [])]
  [] none none [] []

example : (match emitModule [root] with
    | .ok m => m.classes.map (·.name) == ["Child", "Root"] && m.elements == ["Array", "Object", "String"] && m.maybe && m.property &&
        m.typing == ["List"] &&
        (List.range m.classes.length).all (fun i => match m.classes[i]? with
          | some c => c.names.all fun n => (m.scopeAt i).contains n
          | none => true)
    | .error _ => false) = true := by decide +kernel

example : (match emitModule [root] with
    | .ok m => (m.classes.map fun c => c.props.map fun p => (p.attr, p.ann.show)) ==
        [[("id", "str")], [("child", "Maybe[Child]"), ("tags", "Maybe[List[str]]")]]
    | .error _ => false) = true := by decide +kernel

open Statham.PyEval

/-- **a class statement, executed, is the class**: for a model class in the form its statement determines (`ClassOK`:
    only what `ObjectMeta` takes, container keywords consistent with their flags, bound properties) whose sub-elements are
    well formed for the namespace (every class they refer to is there under its printed name) -/
theorem C02_class_statement_rebuilds (env : String → Option Elem) (n : String) (kw : Kw) (items : List Elem)
    (addI cont : Option Elem) (props pats : List (Key × Elem)) (addP pn : Option Elem) (deps : List (Key × Elem)) (els : List Elem)
    (ok : ClassOK ⟨kw, items, addI, cont, props, pats, addP, pn, deps, els⟩)
    (hi : WFL env items) (ha : WFO env addI) (hc : WFO env cont) (hp : WFK env props) (hpt : WFK env pats)
    (hap : WFO env addP) (hpn : WFO env pn) (hd : WFD env deps) (he : WFL env els) :
    evalClassDef env (classDef (.mk (.object n) kw items addI cont props pats addP pn deps els)) =
      some (.mk (.object n) kw items addI cont props pats addP pn deps els) :=
  evalClassDef_classDef env n kw items addI cont props pats addP pn deps els ok hi ha hc hp hpt hap hpn hd he

/-- **a module, executed top to bottom, rebuilds every class**: if each class statement is executable in the namespace the
    earlier statements leave behind (`ChainOK`; that the classes a statement refers to *are* earlier is
    `C11_declared_after_dependencies`), the execution yields exactly the classes the statements were printed from, in order -/
theorem C02_module_executes (cs : List Elem) (env : String → Option Elem) (h : ChainOK env cs) :
    execClasses env (cs.map classDef) = some (cs.map fun c => (objName c.cls, c)) :=
  execClasses_ok cs env h

theorem emitted_executes (els : List Elem) (m : PyModule) (h : emitModule els = .ok m) (ok : ModuleOK els) :
    ∃ order : List String, m.classes = (order.filterMap (lookupClass els)).map classDef ∧
      execClasses (fun _ => none) m.classes = some ((order.filterMap (lookupClass els)).map fun c => (objName c.cls, c)) := by
  obtain ⟨order, ho, hc⟩ := classes_follow_order els m h
  refine ⟨order, hc, ?_⟩
  rw [hc]
  exact C02_module_executes _ _
    (chainOK_of_module els ok order ho order [] (fun _ => none) (by simp) (by intro d _ hd; cases hd))

/-- **every module the generator model emits from well-formed trees executes back to its classes.**  `ModuleOK`: one class
    per name, none called `NotPassed`, classes in the form their statement determines, every other element in the form its
    constructor leaves it in.  No hypothesis about the order: that each statement finds its classes already declared is
    derived (orderer soundness `C11_declared_after_dependencies` + adequacy of its search), for trees of any size. -/
theorem C02_emitted_module_executes (els : List Elem) (m : PyModule) (h : emitModule els = .ok m) (ok : ModuleOK els) :
    ∃ cs : List Elem, m.classes = cs.map classDef ∧
      execClasses (fun _ => none) m.classes = some (cs.map fun c => (objName c.cls, c)) := by
  obtain ⟨order, h1, h2⟩ := emitted_executes els m h ok
  exact ⟨_, h1, h2⟩

/-- **every class the executed module defines is one of the parsed classes, bound under its own name** — so the executed class
    and the parsed class are the same element: equal, and validating identically, in every environment -/
theorem C02_executed_classes_are_parsed (els : List Elem) (m : PyModule) (h : emitModule els = .ok m) (ok : ModuleOK els) :
    ∃ defs : List (String × Elem), execClasses (fun _ => none) m.classes = some defs ∧
      ∀ p ∈ defs, p.2 ∈ objectClasses els ∧ objName p.2.cls = p.1 := by
  obtain ⟨order, _, h2⟩ := emitted_executes els m h ok
  refine ⟨_, h2, ?_⟩
  intro p hp
  obtain ⟨c, hcmem, rfl⟩ := List.mem_map.mp hp
  obtain ⟨n, _, hl⟩ := List.mem_filterMap.mp hcmem
  exact ⟨(lookupClass_spec hl).1, rfl⟩

/-- **a name identifies a class**: two parsed classes of one name are the same class (`ModuleOK.unique`), so whatever the
    executed module binds under the name of a parsed class is that class.  What follows for the values it accepts is
    `C02_generated_root_accepts_iff_draft6` (Props/C02Draft6). -/
theorem C02_executed_class_is_parsed (els : List Elem) (ok : ModuleOK els) (c root : Elem)
    (hc : c ∈ objectClasses els) (hr : root ∈ objectClasses els) (hn : objName c.cls = objName root.cls) : c = root :=
  ok.unique c hc root hr hn

namespace Sample

def tag : Elem :=
  .mk (.object "Tag") { hasProps := true, description := some "A tag." } [] none none
    [({ name := "label", required := true, source := some "label" }, Elem.leaf .string { maxLength := some (.int 8) })] [] none none [] []
def post : Elem :=
  .mk (.object "Post") { hasProps := true, addPropsB := false, hasPatProps := true, required := some ["tags"] } [] none none
    [({ name := "tags", source := some "tags" },
       .mk .array { itemsKind := .single, default := some (.arr []) } [tag] none none [] [] none none [] []),
     ({ name := "class_", required := true, source := some "class" }, Elem.compose .anyOf [tag, Elem.leaf .null])]
    [({ name := "^x-" }, Elem.leaf .integer)] none none [] []

/-- the hypotheses are met by a two-class module in which the second class refers to the first from two places -/
example : ChainOK (fun _ => none) [tag, post] := by
  simp [ChainOK, DeclOK, WF, WFL, WFO, WFK, WFD, tag, post, NodeOK, Elem.leaf, Elem.compose, objName, Elem.cls]
  -- left: `ClassOK` of the two classes and `ArrayOK` of the array under `tags`, field by field
  refine ⟨?_, ?_, ?_⟩ <;> constructor <;> simp [BoundKey, PatKey, DepOK, Key.src]

def mini : Elem :=
  .mk (.object "Mini") { hasProps := true } [] none none [({ name := "tag", required := true, source := some "tag" }, tag)] [] none none [] []

/-- ... and `ModuleOK` by the trees a small module is generated from (so `C02_emitted_module_executes` applies to it) -/
example : ModuleOK [mini] := by
  have hoc : objectClasses [mini] = [mini, tag] := rfl
  have hpool : [mini] ++ ([mini].map descendants).flatten = [mini, tag, Elem.leaf .string { maxLength := some (.int 8) }] := rfl
  constructor
  · intro a ha b hb hn
    rw [hoc] at ha hb
    simp only [List.mem_cons, List.mem_nil_iff, or_false] at ha hb
    rcases ha with rfl | rfl <;> rcases hb with rfl | rfl
    · rfl
    · exact absurd hn (by decide)
    · exact absurd hn (by decide)
    · rfl
  · intro c hc
    rw [hoc] at hc
    simp only [List.mem_cons, List.mem_nil_iff, or_false] at hc
    rcases hc with rfl | rfl <;> decide
  · intro c hc
    rw [hoc] at hc
    simp only [List.mem_cons, List.mem_nil_iff, or_false] at hc
    rcases hc with rfl | rfl
    · constructor <;> simp [stOf, mini, BoundKey, PatKey, DepOK, Key.src]
    · constructor <;> simp [stOf, tag, BoundKey, PatKey, DepOK, Key.src]
  · intro d hd hno
    rw [hpool] at hd
    simp only [List.mem_cons, List.mem_nil_iff, or_false] at hd
    rcases hd with rfl | rfl | rfl
    · simp [mini, isObjectClass, Elem.cls] at hno
    · simp [tag, isObjectClass, Elem.cls] at hno
    · simp [NodeOK, stOf, Elem.leaf, Elem.cls]

/-- the executable form the driver reports, evaluated in the kernel on the module of `post` (the two classes of the
    `ChainOK` example) -/
example : execBack [post] = true := by decide +kernel

end Sample

end Statham.C02
