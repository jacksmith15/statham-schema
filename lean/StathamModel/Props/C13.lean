/-
  C13 — elements always validate according to their current configuration.
-/
import StathamModel.History
-- imported so that building and auditing this module re-checks the tie
import StathamModel.Tie
import StathamModel.Props.C08
namespace Statham.C13
open Statham

/-- **The property.** Whatever reconfiguration steps and validation calls came before, each call
    answers exactly as a freshly constructed element with the configuration of that moment. -/
def Statement : Prop :=
  ∀ (env : Env) (e : Elem) (h : List Step), (runHistory env e h).1 = freshAnswers env e h

theorem C13_full : Statement := by
  intro env e h
  induction h generalizing e with
  | nil => rfl
  | cons s rest ih =>
    cases s with
    | reconfig f => simp only [runHistory, freshAnswers]; exact ih (f e)
    | call a =>
      simp only [runHistory, freshAnswers, configAfter]
      rw [ih e]

/-- calls do not move the configuration: only reconfiguration steps do -/
theorem calls_keep_config (env : Env) (e : Elem) (h : List Step) :
    (runHistory env e h).2 = configAfter e h := by
  induction h generalizing e with
  | nil => rfl
  | cons s rest ih =>
    cases s with
    | reconfig f => simp only [runHistory, configAfter]; exact ih (f e)
    | call a => simp only [runHistory, configAfter]; exact ih e

/-- inserting or deleting earlier calls does not change a later answer -/
theorem earlier_calls_irrelevant (env : Env) (e : Elem) (pre : List Arg) (a : Arg) :
    ((runHistory env e (pre.map Step.call ++ [Step.call a])).1).getLast? = some (e.call env a) := by
  induction pre with
  | nil => simp [runHistory]
  | cons p pre ih =>
    simp only [List.map_cons, List.cons_append, runHistory]
    cases hrun : (runHistory env e (pre.map Step.call ++ [Step.call a])).1 with
    | nil => rw [hrun] at ih; simp at ih
    | cons x xs => rw [hrun] at ih; simpa using ih

/-- In the model an element has no state besides its configuration: the library matches this only if it
    keeps no cache, which is what the write-site inventory (`C08.writeSites_accounted`: no store outside
    the accounted ones, no cache decorator) and the history correspondence check on every run. -/
theorem no_hidden_state_sites : Gen.notableWriteSites = C08.accounted.map (·.1) := C08.writeSites_accounted

/-- non-vacuity: a reconfiguration really changes the answer -/
example :
    let env : Env := { re := fun _ _ => false, fmt := fun _ => none }
    let e := Elem.leaf .integer { maximum := some (.int 5) }
    let loosen : Elem → Elem := fun _ => Elem.leaf .integer { maximum := some (.int 10) }
    ((runHistory env e [.call (.val (.num (.int 7))), .reconfig loosen, .call (.val (.num (.int 7)))]).1.map
      Res.verdict) = [.reject, .pass] := by decide +kernel

end Statham.C13
