/-
  C08 — validation is pure: it changes neither schema nor data, and is repeatable.

  In the model a call is a function `Elem → Arg → Res`: the element and the value are Lean
  values, so "unchanged" and "repeatable" hold by construction.  What carries the property over
  to the library is (1) the *inventory of write sites*, regenerated from /repo on every run and
  accounted for here site by site, and (2) the heap state-diff correspondence
  (harness/statediff.py), which snapshots everything reachable from the element tree and the
  library's module state around every call.
-/
import StathamModel.Validate
import StathamModel.Gen.Sites
-- imported so that building and auditing this module re-checks the tie
import StathamModel.Tie
namespace Statham.C08
open Statham

/-- what a store in the library may legitimately touch -/
inductive Role where
  | localContainer   -- a container or string created in the same function
  | freshResult      -- the object being built as the call's result (`Object.__init__`, `_AnonymousObject`)
  | bind             -- `_Property.bind` / `_PropertyDict.parent`: name and source stay on a bound tree (`bind_noop`); `parent` is not modelled
  | construction     -- class / element construction time (descriptors, class dictionaries)
  | parser           -- the parser's own state and its in-place rewriting of the input document
  | registry         -- the format registry (explicit registration API)
  | serializer       -- dictionaries the serializers build
  | singleton        -- one-time creation of the `NotPassed` singleton
deriving DecidableEq, Repr

/-- every write site of the library other than `self.x = …` inside `__init__` and `cls.x = …` inside `ObjectMeta.__new__`,
    with its role; a row is repeated when a function holds several textually identical sites -/
def accounted : List (Gen.Site × Role) := [
  (⟨"statham/schema/constants.py", "NotPassed.__new__", "assign", "cls._instance"⟩, .singleton),
  (⟨"statham/schema/elements/array.py", "Array.item_annotations", "call:append", "annotations"⟩, .localContainer),
  (⟨"statham/schema/elements/base.py", "Element.properties", "assign", "self._properties"⟩, .construction),
  (⟨"statham/schema/elements/base.py", "Element.properties", "assign", "self._properties"⟩, .construction),
  (⟨"statham/schema/elements/base.py", "Element.properties", "assign", "self._properties.parent"⟩, .construction),
  (⟨"statham/schema/elements/base.py", "_AnonymousObject.__setattr__", "call:__setitem__", "self"⟩, .freshResult),
  (⟨"statham/schema/elements/items.py", "Items.__repr__", "call:append", "items"⟩, .localContainer),
  (⟨"statham/schema/elements/items.py", "Items.__repr__", "call:append", "items"⟩, .localContainer),
  (⟨"statham/schema/elements/meta.py", "ObjectClassDict.__setitem__", "call:__setitem__", "self.properties"⟩, .construction),
  (⟨"statham/schema/elements/meta.py", "ObjectClassDict.__setitem__", "call:__setitem__", "super()"⟩, .construction),
  (⟨"statham/schema/elements/meta.py", "ObjectMeta.python", "augassign-name", "class_def := f'class {repr(cls)}({', '.join(cls_args)}):\\n'"⟩, .localContainer),
  (⟨"statham/schema/elements/meta.py", "ObjectMeta.python", "call:append", "cls_args"⟩, .localContainer),
  (⟨"statham/schema/elements/object.py", "Object.__init__", "setattr", "self"⟩, .freshResult),
  (⟨"statham/schema/elements/object.py", "Object.__init_subclass__", "assign", "cls.description"⟩, .construction),
  (⟨"statham/schema/elements/object.py", "Object.inline", "assign", "object_properties[prop_name]"⟩, .construction),
  (⟨"statham/schema/elements/properties.py", "Properties.__repr__", "call:append", "props"⟩, .localContainer),
  (⟨"statham/schema/elements/properties.py", "Properties.__repr__", "call:append", "props"⟩, .localContainer),
  (⟨"statham/schema/elements/properties.py", "Properties.__repr__", "call:append", "props"⟩, .localContainer),
  (⟨"statham/schema/helpers.py", "custom_repr_args", "assign", "kwargs[param.name]"⟩, .localContainer),
  (⟨"statham/schema/helpers.py", "custom_repr_args", "call:append", "args"⟩, .localContainer),
  (⟨"statham/schema/helpers.py", "custom_repr_args", "call:extend", "args"⟩, .localContainer),
  (⟨"statham/schema/parser.py", "_ParseState.dedupe", "assign", "object_type.__name__"⟩, .parser),
  (⟨"statham/schema/parser.py", "_ParseState.dedupe", "call:append", "self.seen[name]"⟩, .parser),
  (⟨"statham/schema/parser.py", "_parse_composition", "assign", "composition[key]"⟩, .parser),
  (⟨"statham/schema/parser.py", "_parse_composition", "assign", "element.default"⟩, .parser),
  (⟨"statham/schema/parser.py", "_parse_composition", "call:append", "all_of"⟩, .parser),
  (⟨"statham/schema/parser.py", "_parse_composition", "call:append", "all_of"⟩, .parser),
  (⟨"statham/schema/parser.py", "_parse_composition", "call:append", "all_of"⟩, .parser),
  (⟨"statham/schema/parser.py", "_parse_multi_typed", "assign", "single['default']"⟩, .parser),
  (⟨"statham/schema/parser.py", "_parse_object", "assign", "class_dict[key]"⟩, .parser),
  (⟨"statham/schema/parser.py", "_parse_object", "assign", "cls_args[key]"⟩, .parser),
  (⟨"statham/schema/parser.py", "_parse_object", "call:update", "properties"⟩, .parser),
  (⟨"statham/schema/parser.py", "parse_element", "assign", "schema['additionalItems']"⟩, .parser),
  (⟨"statham/schema/parser.py", "parse_element", "assign", "schema['additionalProperties']"⟩, .parser),
  (⟨"statham/schema/parser.py", "parse_element", "assign", "schema[keyword]"⟩, .parser),
  (⟨"statham/schema/parser.py", "parse_element", "assign", "schema[literal_key]"⟩, .parser),
  (⟨"statham/schema/property.py", "_Property.__repr__", "call:pop", "repr_args.kwargs"⟩, .localContainer),
  (⟨"statham/schema/property.py", "_Property.bind", "assign", "self.name"⟩, .bind),
  (⟨"statham/schema/property.py", "_Property.bind", "assign", "self.parent"⟩, .bind),
  (⟨"statham/schema/property.py", "_Property.bind", "assign", "self.source"⟩, .bind),
  (⟨"statham/schema/property.py", "_PropertyDict.__setitem__", "call:__setitem__", "super()"⟩, .construction),
  (⟨"statham/schema/property.py", "_PropertyDict.parent", "assign", "self._parent"⟩, .bind),
  (⟨"statham/schema/validation/format.py", "_FormatString.register._register_callable", "assign", "self._callable_register[format_string]"⟩, .registry),
  (⟨"statham/schema/validation/object.py", "Required.from_element", "augassign-name", "required := list(getattr(element, 'required', None) or [])"⟩, .localContainer),
  (⟨"statham/serializers/json.py", "_serialize_element", "assign", "schema['not']"⟩, .serializer),
  (⟨"statham/serializers/json.py", "_serialize_element", "assign", "schema['properties']"⟩, .serializer),
  (⟨"statham/serializers/json.py", "_serialize_element", "assign", "schema['required']"⟩, .serializer),
  (⟨"statham/serializers/json.py", "_serialize_element", "assign", "schema['title']"⟩, .serializer),
  (⟨"statham/serializers/json.py", "_serialize_element", "assign", "schema['type']"⟩, .serializer),
  (⟨"statham/serializers/json.py", "_serialize_element", "assign", "schema[element.mode]"⟩, .serializer),
  (⟨"statham/serializers/json.py", "_serialize_element", "delete", "schema['properties']"⟩, .serializer),
  (⟨"statham/serializers/json.py", "_serialize_element", "delete", "schema['required']"⟩, .serializer),
  (⟨"statham/serializers/json.py", "serialize_json", "call:update", "schema['definitions']"⟩, .serializer),
  (⟨"statham/serializers/json.py", "serialize_json", "delete", "schema['definitions']"⟩, .serializer),
  (⟨"statham/serializers/orderer.py", "get_children", "call:add", "seen"⟩, .serializer),
  (⟨"statham/serializers/orderer.py", "orderer.pop_name", "call:update", "object_dependencies"⟩, .serializer),
  (⟨"statham/serializers/orderer.py", "orderer.pop_name", "delete", "object_dependencies[name]"⟩, .serializer),
  (⟨"statham/serializers/python.py", "_get_statham_imports", "call:append", "statham_imports"⟩, .serializer),
  (⟨"statham/serializers/python.py", "_get_statham_imports", "call:append", "statham_imports"⟩, .serializer),
  (⟨"statham/serializers/python.py", "_get_statham_imports", "call:append", "statham_imports"⟩, .serializer)
]

/-- **Tie.** The write sites found in /repo on this run are exactly the accounted ones: a new store,
    augmented assignment, mutator call, `setattr`, cache decorator — or an aliasing change of an
    augmented-assignment target — breaks this theorem. -/
theorem writeSites_accounted : Gen.notableWriteSites = accounted.map (·.1) := by rfl

/-- `Gen.unscannedModules`: every `.py` file of the package that the translator's site scanner neither reads nor knows to
    hold no site; a module added to the library makes the list non-empty. -/
theorem no_unscanned_modules : Gen.unscannedModules = [] := by decide

/-- a site is on the validation path if it lives in the element / validation / property modules, outside `__repr__`,
    `ObjectMeta.python` and `Array.item_annotations`: code generation never runs in a call; `__repr__` does (error
    messages print the element), and every site inside one has role `localContainer` -/
def onCallPath (s : Gen.Site) : Bool :=
  (s.file.startsWith "statham/schema/elements/" || s.file.startsWith "statham/schema/validation/" ||
    s.file == "statham/schema/property.py") &&
  !(s.func.endsWith "__repr__" || s.func == "ObjectMeta.python" || s.func == "Array.item_annotations")

/-- The role is tested first: the kernel then evaluates the string tests of `onCallPath` only for the sites whose
    role is not harmless, which is what makes this cheaper to check than the filter form below. -/
theorem harmless_or_offPath :
    accounted.all (fun p => (p.2 == .localContainer || p.2 == .freshResult || p.2 == .bind || p.2 == .construction ||
      p.2 == .registry) || !onCallPath p.1) = true := by decide +kernel

/-- every write on the validation path is to a local container, to the fresh result, an idempotent
    bind, or happens at class-construction time or through the registration API -/
theorem callPath_harmless :
    (accounted.filter fun p => onCallPath p.1).all
      (fun p => p.2 == .localContainer || p.2 == .freshResult || p.2 == .bind || p.2 == .construction ||
        p.2 == .registry) = true := by
  refine List.all_eq_true.mpr fun p hp => ?_
  obtain ⟨hm, hon⟩ := List.mem_filter.mp hp
  have := List.all_eq_true.mp harmless_or_offPath p hm
  rw [hon] at this
  exact ((Bool.or_eq_true _ _).mp this).resolve_right (by decide)

/-! ### the `bind` stores are no-ops on a bound tree -/

/-- `_Property.bind(name=…)` for a non-empty `name` (on an empty one the Python returns before this):
    `if not self.source: self.source = name; self.name = name` -/
def bind (k : Key) (name : String) : Key :=
  { k with name := name, source := some (match k.source with
      | some s => if s = "" then name else s
      | none => name) }

/-- a property as it sits in a container after construction: its source is set (non-empty) -/
def Bound (k : Key) : Prop := ∃ s, k.source = some s ∧ s ≠ ""

theorem bind_noop (k : Key) (h : Bound k) : bind k k.name = k := by
  obtain ⟨s, hs, hne⟩ := h
  cases k with
  | mk name required source names =>
    simp only at hs
    subst hs
    simp [bind, hne]

theorem bind_idempotent (k : Key) (n : String) (hn : n ≠ "") : bind (bind k n) n = bind k n := by
  cases k with
  | mk name required source names =>
    cases source with
    | none => simp [bind, hn]
    | some s => by_cases h : s = "" <;> simp [bind, h, hn]

theorem bind_bound (k : Key) (n : String) (hn : n ≠ "") : Bound (bind k n) := by
  cases k with
  | mk name required source names =>
    cases source with
    | none => exact ⟨n, rfl, hn⟩
    | some s =>
      by_cases h : s = ""
      · exact ⟨n, by simp [bind, h], hn⟩
      · exact ⟨s, by simp [bind, h], h⟩

theorem repeatable (env : Env) (e : Elem) (a : Arg) (n : Nat) :
    (List.replicate n a).map (e.call env) = List.replicate n (e.call env a) := by
  induction n with
  | zero => rfl
  | succ n ih => simp [List.replicate_succ, ih]

theorem history_independent (env : Env) (e : Elem) (hist : List Arg) (a : Arg) :
    ((hist ++ [a]).map (e.call env)).getLast? = some (e.call env a) := by
  simp

end Statham.C08
