/-
  C15 — a subclass model means its parent's schema plus its own additions.

  Over the inheritance model (Inherit.lean: `ObjectMeta.__new__` as keyword fall-back plus `{**clones of the inherited
  properties, **own}`).  Proved: (1) a chain of class statements of any length gives the class that the one merged
  statement gives (`chain_flat`), hence the same verdicts and the same serialization; (2) no `_Property` object is held
  by two classes (`Inv`, kept by every operation of the public surface), so no history of operations aimed at other
  classes, subclasses included, changes a class (`C15_parent_untouched`).  Left to the comparison with the real
  `ObjectMeta` classes on generated class histories: that the model's operations are the library's.
-/
import StathamModel.Inherit
import StathamModel.Lemmas.DictMerge
import StathamModel.Validate
import StathamModel.SerJson
-- imported so that building and auditing this module re-checks the tie
import StathamModel.Tie
namespace Statham.C15
open Statham

theorem over_assoc (a b c : ClassArgs) : (a.over b).over c = a.over (b.over c) := by
  simp [ClassArgs.over, Option.or_assoc]

theorem nonEmptyDoc_idem (a : Option String) : nonEmptyDoc (nonEmptyDoc a) = nonEmptyDoc a := by
  cases a with
  | none => rfl
  | some s => by_cases h : s = "" <;> simp [nonEmptyDoc, h]

theorem nonEmptyDoc_or (a b : Option String) :
    nonEmptyDoc (nonEmptyDoc a <|> nonEmptyDoc b) = (nonEmptyDoc a <|> nonEmptyDoc b) := by
  cases h : nonEmptyDoc a with
  | none => simpa using nonEmptyDoc_idem b
  | some s => simpa [h] using nonEmptyDoc_idem a

/-- a child of a child is a child of the parent with the two statements merged -/
theorem inherit_inherit (p : Cfg) (d1 d2 : ClassDecl) (h1 : keysDistinct d1.props) :
    inherit (inherit p d1) d2 = inherit p (d1.andThen d2) := by
  simp only [inherit, ClassDecl.andThen, over_assoc, nonEmptyDoc_or, dictMerge_assoc _ _ _ h1, Cfg.mk.injEq, true_and,
    and_true]
  -- left: associativity of `<|>` on the docstring
  simp [HOrElse.hOrElse, OrElse.orElse, Option.or_assoc]

def bodiesAreDicts (ds : List ClassDecl) : Prop := ∀ d ∈ ds, keysDistinct d.props

/-- **Multi-level chains**: declaring `d, d₁, …, dₙ` one below the other gives exactly the class that the single
    merged statement gives. -/
theorem chain_flat (p : Cfg) (d : ClassDecl) (ds : List ClassDecl) (hd : keysDistinct d.props) :
    ds.foldl inherit (inherit p d) = inherit p (ds.foldl ClassDecl.andThen d) := by
  induction ds generalizing d with
  | nil => rfl
  | cons d' ds ih =>
    simp only [List.foldl_cons]
    rw [inherit_inherit p d d' hd]
    exact ih (d.andThen d') (keysDistinct_dictMerge _ _ hd)

/-- **The subclass validates exactly like the flat class**: same result for every environment and argument -/
theorem C15_validates_like_flat (env : Env) (name : String) (d : ClassDecl) (ds : List ClassDecl) (hd : keysDistinct d.props)
    (a : Arg) :
    ((ds.foldl inherit (inherit Cfg.object d)).toElem name).call env a =
    ((inherit Cfg.object (ds.foldl ClassDecl.andThen d)).toElem name).call env a := by
  rw [chain_flat _ d ds hd]

/-- … and serializes exactly like it -/
theorem C15_serializes_like_flat (defs : List (String × Elem)) (name : String) (d : ClassDecl) (ds : List ClassDecl)
    (hd : keysDistinct d.props) :
    serElem none defs ((ds.foldl inherit (inherit Cfg.object d)).toElem name) =
    serElem none defs ((inherit Cfg.object (ds.foldl ClassDecl.andThen d)).toElem name) := by
  rw [chain_flat _ d ds hd]

/-- what "merged" means for a keyword: the child's argument where passed, else the parent's (three of the eleven
    keywords; each holds by `rfl`, as `ClassArgs.over` is written keyword by keyword) -/
theorem merged_keyword (d1 d2 : ClassDecl) :
    (d1.andThen d2).args.minProperties = (d2.args.minProperties <|> d1.args.minProperties) ∧
    (d1.andThen d2).args.required = (d2.args.required <|> d1.args.required) ∧
    (d1.andThen d2).args.addProps = (d2.args.addProps <|> d1.args.addProps) := ⟨rfl, rfl, rfl⟩

/-- … and property by property: the child's where the body declares that name -/
theorem merged_property_own (d1 d2 : ClassDecl) (n : String) (c : Cell) (h : dictGet? d2.props n = some c)
    (hd : keysDistinct d2.props) : dictGet? (d1.andThen d2).props n = some c :=
  dictGet?_dictMerge_right d1.props d2.props n c hd h

/-- … else the parent's -/
theorem merged_property_inherited (d1 d2 : ClassDecl) (n : String) (h : dictGet? d2.props n = none) :
    dictGet? (d1.andThen d2).props n = dictGet? d1.props n :=
  dictGet?_dictMerge_left d1.props d2.props n h

/-- every property identity a class holds exists, and no identity is held by two classes -/
def Inv (w : World) : Prop :=
  (∀ (c : Nat) (cls : ClsObj), w.classes[c]? = some cls → ∀ p ∈ cls.props, p.2 < w.cells.length) ∧
  (∀ (c1 c2 : Nat) (cls1 cls2 : ClsObj) (n1 n2 : String) (id : Nat), w.classes[c1]? = some cls1 → w.classes[c2]? = some cls2 →
    (n1, id) ∈ cls1.props → (n2, id) ∈ cls2.props → c1 = c2)

theorem inv_init : Inv World.init := by
  constructor
  · intro c cls h p hp
    -- `World.init` holds one class: `h` at `c + 1` is `none = some _`, which the match compiler discharges
    match c, h with
    | 0, h => simp [World.init] at h; subst h; cases hp
  · intro c1 c2 cls1 cls2 n1 n2 id h1 h2 m1 _
    match c1, h1 with
    | 0, h1 => simp [World.init] at h1; subst h1; cases m1

theorem alloc_cells (cells : List Cell) (l : List (String × Cell)) : (alloc cells l).1 = cells ++ l.map (·.2) := by
  induction l generalizing cells with
  | nil => simp [alloc]
  | cons p r ih => obtain ⟨n, c⟩ := p; simp [alloc, ih]

theorem alloc_ids (cells : List Cell) (l : List (String × Cell)) (q : String × Nat) (h : q ∈ (alloc cells l).2) :
    cells.length ≤ q.2 ∧ q.2 < (alloc cells l).1.length := by
  induction l generalizing cells with
  | nil => simp [alloc] at h
  | cons p r ih =>
    obtain ⟨n, c⟩ := p
    simp only [alloc, List.mem_cons] at h ⊢
    rcases h with rfl | h
    · simp [alloc_cells]
    · have := ih (cells ++ [c]) h
      simp only [List.length_append, List.length_cons, List.length_nil] at this
      exact ⟨by omega, this.2⟩

theorem derefProps_congr (cells cells' : List Cell) (props : List (String × Nat))
    (h : ∀ p ∈ props, cells'[p.2]? = cells[p.2]?) : derefProps cells' props = derefProps cells props := by
  unfold derefProps
  induction props with
  | nil => rfl
  | cons p r ih =>
    simp only [List.filterMap_cons, h p (List.mem_cons_self ..)]
    rw [ih fun q hq => h q (List.mem_cons_of_mem _ hq)]

theorem view_congr (w w' : World) (c : Nat) (hc : w'.classes[c]? = w.classes[c]?)
    (hcells : ∀ cls, w.classes[c]? = some cls → ∀ p ∈ cls.props, w'.cells[p.2]? = w.cells[p.2]?) :
    w'.view c = w.view c := by
  unfold World.view
  rw [hc]
  cases h : w.classes[c]? with
  | none => rfl
  | some cls => simp only [Option.map_some]; rw [derefProps_congr _ _ _ (hcells cls h)]

/-- `w'` differs from `w` only at class `t` and at the cells class `t` holds: the other classes are the same objects,
    `t` keeps properties it had or holds freshly allocated cells, old cells not held by `t` are unchanged.
    Every operation has this shape (`step_frame`); the invariant, the untouched views and the class count follow from it. -/
structure Frame (w w' : World) (t : Nat) : Prop where
  classes_len : w.classes.length ≤ w'.classes.length
  cells_len : w.cells.length ≤ w'.cells.length
  other : ∀ c, c ≠ t → w'.classes[c]? = w.classes[c]?
  held : ∀ cls', w'.classes[t]? = some cls' → ∀ q ∈ cls'.props,
    (∃ cls, w.classes[t]? = some cls ∧ q ∈ cls.props) ∨ (w.cells.length ≤ q.2 ∧ q.2 < w'.cells.length)
  cells : ∀ id, id < w.cells.length →
    w'.cells[id]? = w.cells[id]? ∨ ∃ cls n, w.classes[t]? = some cls ∧ (n, id) ∈ cls.props

theorem Frame.refl (w : World) (t : Nat) : Frame w w t :=
  ⟨Nat.le_refl _, Nat.le_refl _, fun _ _ => rfl, fun cls' h _ hq => Or.inl ⟨cls', h, hq⟩, fun _ _ => Or.inl rfl⟩

/-- class `t` replaced, cells only added -/
theorem Frame.of_set {w : World} {t : Nat} {cls cls' : ClsObj} {extra : List Cell} (ht : w.classes[t]? = some cls)
    (hprops : ∀ q ∈ cls'.props, q ∈ cls.props ∨ (w.cells.length ≤ q.2 ∧ q.2 < (w.cells ++ extra).length)) :
    Frame w { cells := w.cells ++ extra, classes := w.classes.set t cls' } t where
  classes_len := by simp
  cells_len := by simp
  other c hc := List.getElem?_set_ne (Ne.symm hc)
  held x hx q hq := by
    rw [List.getElem?_set_self (List.getElem?_eq_some_iff.mp ht).1] at hx
    cases hx
    exact (hprops q hq).imp (fun h => ⟨cls, ht, h⟩) id
  cells id hid := Or.inl (List.getElem?_append_left hid)

/-- a class appended, cells only added, the new class holding none of the old cells -/
theorem Frame.of_append {w : World} {cls' : ClsObj} {extra : List Cell}
    (hprops : ∀ q ∈ cls'.props, w.cells.length ≤ q.2 ∧ q.2 < (w.cells ++ extra).length) :
    Frame w { cells := w.cells ++ extra, classes := w.classes ++ [cls'] } w.classes.length where
  classes_len := by simp
  cells_len := by simp
  other c hc := by
    rcases Nat.lt_or_ge c w.classes.length with hlt | hge
    · exact List.getElem?_append_left hlt
    · rw [List.getElem?_eq_none hge, List.getElem?_eq_none (by simp; omega)]
  held x hx q hq := by
    rw [List.getElem?_append_right (Nat.le_refl _), Nat.sub_self] at hx
    cases hx
    exact Or.inr (hprops q hq)
  cells id hid := Or.inl (List.getElem?_append_left hid)

theorem Frame.inv {w w' : World} {t : Nat} (F : Frame w w' t) (h : Inv w) : Inv w' := by
  -- an identity held in `w'` is old (held by the same class in `w`) or fresh; fresh ones only occur in class `t`
  have old : ∀ c cls' n id, w'.classes[c]? = some cls' → (n, id) ∈ cls'.props →
      (id < w.cells.length ∧ ∃ cls, w.classes[c]? = some cls ∧ (n, id) ∈ cls.props) ∨
        (c = t ∧ w.cells.length ≤ id ∧ id < w'.cells.length) := by
    intro c cls' n id hc hq
    by_cases e : c = t
    · subst e
      rcases F.held cls' hc _ hq with ⟨cls, hcls, hm⟩ | hf
      · exact Or.inl ⟨h.1 c cls hcls _ hm, cls, hcls, hm⟩
      · exact Or.inr ⟨rfl, hf⟩
    · rw [F.other c e] at hc
      exact Or.inl ⟨h.1 c cls' hc _ hq, cls', hc, hq⟩
  constructor
  · intro c cls' hc q hq
    rcases old c cls' q.1 q.2 hc hq with ⟨hlt, _⟩ | ⟨_, _, hlt⟩
    · exact Nat.lt_of_lt_of_le hlt F.cells_len
    · exact hlt
  · intro c1 c2 x1 x2 n1 n2 id h1 h2 m1 m2
    rcases old c1 x1 n1 id h1 m1 with ⟨l1, y1, hy1, k1⟩ | ⟨e1, g1, _⟩ <;>
      rcases old c2 x2 n2 id h2 m2 with ⟨l2, y2, hy2, k2⟩ | ⟨e2, g2, _⟩
    · exact h.2 c1 c2 y1 y2 n1 n2 id hy1 hy2 k1 k2
    · omega  -- old and fresh: `id` below and not below the old cell count
    · omega
    · rw [e1, e2]  -- both fresh: both classes are `t`

theorem Frame.view {w w' : World} {t : Nat} (F : Frame w w' t) (h : Inv w) {c : Nat} (hc : c ≠ t) :
    w'.view c = w.view c := by
  refine view_congr w w' c (F.other c hc) fun cls hcls p hp => ?_
  rcases F.cells p.2 (h.1 c cls hcls p hp) with e | ⟨tcls, n, ht, hm⟩
  · exact e
  · exact absurd (h.2 c t cls tcls p.1 n p.2 hcls ht hp hm) hc

theorem modifyCell_frame (w : World) (t : Nat) (name : String) (f : Cell → Cell) : Frame w (modifyCell w t name f) t := by
  unfold modifyCell
  cases h1 : w.classes[t]? with
  | none => exact Frame.refl w t
  | some cls =>
    simp only
    cases h2 : dictGet? cls.props name with
    | none => exact Frame.refl w t
    | some id =>
      simp only
      cases h3 : w.cells[id]? with
      | none => exact Frame.refl w t
      | some cell =>
        refine ⟨Nat.le_refl _, by simp, fun _ _ => rfl, fun cls' h _ hq => Or.inl ⟨cls', h, hq⟩, fun id' _ => ?_⟩
        by_cases e : id = id'
        · exact Or.inr ⟨cls, name, h1, e ▸ dictGet?_mem _ _ _ h2⟩
        · exact Or.inl (List.getElem?_set_ne e)

/-- every operation touches one class only: its target, or the class it creates -/
theorem step_frame (w : World) (op : Op) : Frame w (step w op) (op.target.getD w.classes.length) := by
  cases op with
  | define parent d =>
    simp only [step, Op.target, Option.getD_none]
    cases hp : w.classes[parent]? with
    | none => exact Frame.refl w _
    | some p =>
      simp only
      -- the clones of the inherited properties, then the body's own: all freshly allocated
      generalize hA : alloc w.cells (derefProps w.cells p.props) = A
      generalize hB : alloc A.1 d.props = B
      have eA : A.1 = w.cells ++ (derefProps w.cells p.props).map (·.2) := by rw [← hA]; exact alloc_cells ..
      have eB : B.1 = w.cells ++ ((derefProps w.cells p.props).map (·.2) ++ d.props.map (·.2)) := by
        rw [← hB, alloc_cells, eA, List.append_assoc]
      rw [eB]
      refine Frame.of_append fun q hq => ?_
      rw [← eB]
      rcases mem_dictMerge _ _ q hq with hq | hq
      · have := alloc_ids w.cells _ q (hA ▸ hq)
        rw [hA] at this
        exact ⟨this.1, Nat.lt_of_lt_of_le this.2 (by rw [eB, eA]; simp)⟩
      · have := alloc_ids A.1 _ q (hB ▸ hq)
        rw [hB] at this
        exact ⟨Nat.le_trans (by rw [eA]; simp) this.1, this.2⟩
  | setKw t patch =>
    simp only [step, Op.target, Option.getD_some]
    cases ht : w.classes[t]? with
    | none => exact Frame.refl w t
    | some cls =>
      simpa using Frame.of_set (extra := []) (cls' := { cls with args := patch.over cls.args }) ht fun q hq => Or.inl hq
  | setProp t name p =>
    simp only [step, Op.target, Option.getD_some]
    cases ht : w.classes[t]? with
    | none => exact Frame.refl w t
    | some cls =>
      refine Frame.of_set (extra := [p]) ht fun q hq => ?_
      rcases mem_dictSet _ _ _ q hq with rfl | hq
      · exact Or.inr ⟨Nat.le_refl _, by simp⟩
      · exact Or.inl hq
  | delProp t name =>
    simp only [step, Op.target, Option.getD_some]
    cases ht : w.classes[t]? with
    | none => exact Frame.refl w t
    | some cls =>
      simpa using Frame.of_set (extra := []) (cls' := { cls with props := cls.props.filter fun p => p.1 != name }) ht
        fun q hq => Or.inl (List.mem_filter.mp hq).1
  | setRequired t name b => exact modifyCell_frame w t name _
  | setElement t name e => exact modifyCell_frame w t name _
  | use t => exact Frame.refl w _

theorem step_view_other (w : World) (op : Op) (c : Nat) (hinv : Inv w) (hc : c < w.classes.length)
    (ht : op.target ≠ some c) : (step w op).view c = w.view c := by
  refine (step_frame w op).view hinv fun e => ?_
  cases h : op.target with
  | none => rw [h] at e; exact absurd hc (by rw [e]; exact Nat.lt_irrefl _)
  | some t => rw [h] at e ht; exact ht (congrArg some e.symm)

theorem step_inv (w : World) (op : Op) (h : Inv w) : Inv (step w op) := (step_frame w op).inv h

theorem run_inv (w : World) (ops : List Op) (h : Inv w) : Inv (run w ops) := by
  induction ops generalizing w with
  | nil => exact h
  | cons op r ih => exact ih _ (step_inv w op h)

/-- **Defining, using or reconfiguring other classes never changes class `c`**: after any history none of whose
    operations is aimed at `c` — class statements (children of `c` included), uses, keyword assignments,
    property additions / replacements / deletions, flag and element changes on properties of any other class,
    in any order — class `c` is, by value, exactly what it was. -/
theorem C15_parent_untouched (w : World) (ops : List Op) (c : Nat) (hinv : Inv w) (hc : c < w.classes.length)
    (hops : ∀ op ∈ ops, op.target ≠ some c) : (run w ops).view c = w.view c := by
  induction ops generalizing w with
  | nil => rfl
  | cons op r ih =>
    have := ih (step w op) (step_inv w op hinv) (Nat.lt_of_lt_of_le hc (step_frame w op).classes_len)
      (fun o ho => hops o (List.mem_cons_of_mem _ ho))
    show (run (step w op) r).view c = w.view c
    rw [this, step_view_other w op c hinv hc (hops op (List.mem_cons_self ..))]

theorem reachable_inv (ops : List Op) : Inv (run World.init ops) := run_inv _ _ inv_init

/-- in a world reached from a fresh interpreter, a history not aimed at class `c` leaves its view as an element tree
    unchanged, hence its verdicts and its serialization -/
theorem C15_parent_behaviour_untouched (ops₀ ops : List Op) (c : Nat) (hc : c < (run World.init ops₀).classes.length)
    (hops : ∀ op ∈ ops, op.target ≠ some c) (env : Env) (a : Arg) (defs : List (String × Elem)) :
    ((run (run World.init ops₀) ops).viewElem c).map (fun e => (e.call env a, serElem none defs e)) =
    ((run World.init ops₀).viewElem c).map (fun e => (e.call env a, serElem none defs e)) := by
  unfold World.viewElem
  rw [C15_parent_untouched _ ops c (reachable_inv ops₀) hc hops]

/-! ### Non-vacuity: a parent, a child adding a property and a keyword, then the child reconfigured -/

def strElem : Elem := Elem.leaf .string
def intElem : Elem := Elem.leaf .integer
def demo : List Op :=
  [.define 0 { name := "Base", args := { addProps := some (.flag false) }, props := [("name", { required := true, elem := strElem })] },
   .define 1 { name := "Child", args := { minProperties := some (.int 1) }, props := [("age", { elem := intElem })] }]
def reconf : List Op := [.setRequired 2 "name" false, .setProp 2 "extra" { elem := strElem }, .delProp 2 "age", .use 2]

example : (run World.init demo).classes.length = 3 := by decide +kernel
example : ∀ op ∈ reconf, op.target ≠ some 1 := by decide
/-- the child really changed, the parent did not -/
example : (((run (run World.init demo) reconf).view 2).map (·.2.props.map (·.1))) = some ["name", "extra"] := by decide +kernel
example : (((run (run World.init demo) reconf).view 1).map (·.2.props.map fun p => (p.1, p.2.required))) = some [("name", true)] := by
  decide +kernel
/-- a world that shares a `_Property` object between parent and child violates the invariant, and there the
    child's reconfiguration does reach the parent (what the cloning in `ObjectMeta.__new__` prevents) -/
def shared : World :=
  { cells := [{ required := true, elem := strElem }],
    classes := [{ name := "Object", args := {}, props := [] }, { name := "Base", args := {}, props := [("name", 0)] },
                { name := "Child", args := {}, props := [("name", 0)] }] }
example : ¬ Inv shared := fun h => absurd (h.2 1 2 _ _ "name" "name" 0 rfl rfl (List.mem_cons_self ..) (List.mem_cons_self ..)) (by decide)
example : ((step shared (.setRequired 2 "name" false)).view 1).map (·.2.props.map fun p => p.2.required) = some [false] := by
  decide +kernel

end Statham.C15
