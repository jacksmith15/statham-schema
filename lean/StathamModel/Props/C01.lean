/-
  C01 — Validation verdicts match JSON Schema Draft 6 for every schema and value.

  Model: `parseE` (statham/schema/parser.py) and `Elem.call` (elements + validators).
  Specification: `D6.valid` (StathamModel/Spec/Draft6.lean), written from the Draft-6 text.
-/
import StathamModel.Lemmas.ParseOk
-- imported so that building and auditing this module re-checks the tie
import StathamModel.Tie
namespace Statham.C01
open Statham

/-- metaschema validity over the supported keywords (what the property quantifies over) -/
def WF (cx : PCtx) (s : Schema) : Prop := (flagsOf cx s).wf = true ∧ (flagsOf cx s).litClean = true

/-- **The property at full strength.**  For every metaschema-valid schema and every JSON value
    the parsed element either returns or raises the validation error (never anything else), and
    it accepts exactly when Draft 6 says valid — where, at each object schema, `required` may be
    read with or without the documented waiver of defaulted names (`ℓ`). -/
def Statement : Prop :=
  ∀ (env : Env) (cx : PCtx) (s : Schema) (v : JVal), WF cx s → distinctKeys v = true →
    (parseE cx s).call env (.val v) ≠ .crash ∧
    ∃ ℓ : SKw → Bool, (parseE cx s).accepts env v = D6.valid env ℓ s v

/-- **What is proved.**  On every schema all of whose nodes satisfy the `Good` conditions
    (metaschema-valid; `multipleOf` a positive integer below 2^53; no two JSON names of one object
    collapsing onto one attribute name, and none empty; no undeclared required name next to a restrictive
    `additionalProperties` on a class; defaults not migrated by the single-branch collapse),
    for every value and every environment (regular expressions, format checkers): if the
    call stays inside the arithmetic domain it accepts exactly when Draft 6 says valid, with the
    waiver read the way the library reads it (on schemas it turns into classes). -/
theorem C01_partial (env : Env) (cx : PCtx) (s : Schema) (v : JVal)
    (hg : Good cx s = true) (hv : distinctKeys v = true)
    (hnc : (parseE cx s).call env (.val v) ≠ .crash) :
    (parseE cx s).accepts env v = D6.valid env typeHasObject s v :=
  accepts_of_rel ((parse_ok env cx s hg).1 v hv) hnc

/-- Exhaustiveness of `Res`: a call of the model yields a value, the validation error, or (outside the arithmetic
    domain) `crash`; the model has no fourth outcome to give. -/
theorem C01_outcomes (env : Env) (e : Elem) (a : Arg) :
    (∃ r, e.call env a = .ok r) ∨ e.call env a = .reject ∨ e.call env a = .crash := by
  cases e.call env a with
  | ok r => exact Or.inl ⟨r, rfl⟩
  | reject => exact Or.inr (Or.inl rfl)
  | crash => exact Or.inr (Or.inr rfl)

/-- the existential form of the partial theorem, matching `Statement`'s second conjunct -/
theorem C01_partial_exists (env : Env) (cx : PCtx) (s : Schema) (v : JVal)
    (hg : Good cx s = true) (hv : distinctKeys v = true)
    (hnc : (parseE cx s).call env (.val v) ≠ .crash) :
    ∃ ℓ : SKw → Bool, (parseE cx s).accepts env v = D6.valid env ℓ s v :=
  ⟨typeHasObject, C01_partial env cx s v hg hv hnc⟩

theorem C01_notPassed (env : Env) (e : Elem) : e.call env .notPassed ≠ .reject := by
  intro h
  have := acc_notPassed_ne_reject env e
  rw [← call_verdict, h] at this
  exact this rfl

/-! ### Outside the hypotheses.  Four kernel-checked instances where the model accepts and Draft 6 does not, whether the
     waiver is read at every node or at none: each is the complement of one `Good` condition and an entry of
     known_findings.json.  Then `counter_crash`: a `Good` schema on which `hnc` fails (finding C10-float-overflow). -/

def ci0 : CharInfo := { isalnum := isAsciiAlnum, uname := fun _ => "unknown" }
def cx0 : PCtx := { ci := ci0 }
def env0 : Env := { re := fun _ _ => false, fmt := fun _ => none }

/-- `{"type":"object","title":"A","required":["a"],"additionalProperties":false}` -/
def sSynth : Schema :=
  .mk { type := .single "object", title := some "A", required := some ["a"] } [] none none [] []
    (some (.bool false)) none [] [] [] [] none

/-- finding C01-synthetic-required: the model (like the library) accepts `{"a": 1}`, Draft 6 does not -/
theorem counter_synthetic :
    (parseE cx0 sSynth).accepts env0 (.obj [("a", .num (.int 1))]) = true ∧
    (∀ b : Bool, D6.valid env0 (fun _ => b) sSynth (.obj [("a", .num (.int 1))]) = false) ∧
    (flagsOf cx0 sSynth).noSynthetic = false := by
  refine ⟨by decide +kernel, fun b => by cases b <;> decide +kernel, by decide +kernel⟩

/-- `{"properties": {"a b": {"type":"string"}, "a_b": {"type":"integer"}}}` -/
def sCollapse : Schema :=
  .mk { hasProps := true } [] none none
    [("a b", Schema.leaf { type := .single "string" }), ("a_b", Schema.leaf { type := .single "integer" })] []
    none none [] [] [] [] none

/-- finding C01-name-collapse: both names map to `a_b`, the first property is lost -/
theorem counter_collapse :
    (parseE cx0 sCollapse).accepts env0 (.obj [("a b", .num (.int 1))]) = true ∧
    (∀ b : Bool, D6.valid env0 (fun _ => b) sCollapse (.obj [("a b", .num (.int 1))]) = false) ∧
    (flagsOf cx0 sCollapse).noCollapse = false := by
  refine ⟨by decide +kernel, fun b => by cases b <;> decide +kernel, by decide +kernel⟩

/-- `{"multipleOf": 0.1}` (0.1 is the double 3602879701896397 / 2^55) -/
def sTenth : Schema := Schema.leaf { multipleOf := some (.flt 3602879701896397 36028797018963968) }

/-- finding C01-float-multipleOf: `4 / 0.1` rounds to `40.0`, so the model (like the library) accepts 4,
    although the double nearest to 0.1 does not divide 4 -/
theorem counter_float_multipleOf :
    (parseE cx0 sTenth).accepts env0 (.num (.int 4)) = true ∧
    (∀ b : Bool, D6.valid env0 (fun _ => b) sTenth (.num (.int 4)) = false) ∧
    (flagsOf cx0 sTenth).intMultipleOf = false := by
  refine ⟨by decide +kernel, fun b => by cases b <;> decide +kernel, by decide +kernel⟩

/-- `{"type":"object","title":"A","required":["p"],"properties":{"p":{"anyOf":[{"default":1}]}}}` -/
def sMigrated : Schema :=
  .mk { type := .single "object", title := some "A", required := some ["p"], hasProps := true } [] none none
    [("p", .mk { hasAnyOf := true } [] none none [] [] none none []
        [Schema.leaf { default := some (.num (.int 1)) }] [] [] none)] []
    none none [] [] [] [] none

/-- finding C01-migrated-default: the single `anyOf` branch is collapsed into the property, its default
    comes along, and the library waives a required name whose schema declares no default -/
theorem counter_migrated_default :
    (parseE cx0 sMigrated).accepts env0 (.obj []) = true ∧
    (∀ b : Bool, D6.valid env0 (fun _ => b) sMigrated (.obj []) = false) ∧
    (flagsOf cx0 sMigrated).defaultFaithful = false := by
  refine ⟨by decide +kernel, fun b => by cases b <;> decide +kernel, by decide +kernel⟩

/-- `{"type":"number"}` on `10^400`: outside the arithmetic domain (`float(10**400)` overflows) -/
theorem counter_crash :
    ((parseE cx0 (Schema.leaf { type := .single "number" })).call env0 (.val (.num (.int (10 ^ 400))))).verdict
      = .crash := by
  decide +kernel

/-! ### the hypotheses are satisfiable on non-trivial inputs -/

/-- `{"type":"object","title":"T","required":["n"],
     "properties":{"n":{"type":"integer","minimum":1,"multipleOf":2},"s":{"type":["string","null"],"maxLength":2}},
     "additionalProperties":{"type":"array","items":[{"type":"boolean"}],"additionalItems":false},
     "oneOf":[{"minProperties":1},{"maxProperties":0}]}` -/
def sGood : Schema :=
  .mk { type := .single "object", title := some "T", required := some ["n"], hasProps := true, hasOneOf := true }
    [] none none
    [("n", Schema.leaf { type := .single "integer", minimum := some (.int 1), multipleOf := some (.int 2) }),
     ("s", Schema.leaf { type := .list ["string", "null"], maxLength := some (.int 2) })] []
    (some (.mk { type := .single "array", itemsKind := .tuple } [Schema.leaf { type := .single "boolean" }]
      (some (.bool false)) none [] [] none none [] [] [] [] none))
    none [] []
    [Schema.leaf { minProperties := some (.int 1) }, Schema.leaf { maxProperties := some (.int 0) }] [] none

example : Good cx0 sGood = true := by decide +kernel
example : (parseE cx0 sGood).accepts env0 (.obj [("n", .num (.int 4)), ("x", .arr [.bool true])]) = true := by
  decide +kernel
example : (parseE cx0 sGood).accepts env0 (.obj [("n", .num (.int 3))]) = false := by decide +kernel
example : (parseE cx0 sGood).accepts env0 (.obj [("n", .num (.int 2)), ("x", .arr [.bool true, .null])]) = false := by
  decide +kernel
example : D6.valid env0 typeHasObject sGood (.obj [("n", .num (.int 4)), ("x", .arr [.bool true])]) = true := by
  decide +kernel

end Statham.C01
