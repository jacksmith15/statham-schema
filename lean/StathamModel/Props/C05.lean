/-
  C05 — defaults fill omitted values and never override supplied ones.
-/
import StathamModel.Lemmas.Results
-- imported so that building and auditing this module re-checks the tie
import StathamModel.Tie
namespace Statham.C05
open Statham

/-- what "the default, converted as if supplied when valid, as-is when not" means -/
def defaultResult (env : Env) (e : Elem) (d : JVal) : Res :=
  match e.call env (.val d) with
  | .ok r => .ok r
  | .reject => .ok (.raw d)
  | .crash => .crash

/-- **Calling any element or model class with no value** yields its own default on those terms, or the
    not-passed marker when it has none (every element class, every keyword configuration). -/
theorem C05_no_value (env : Env) (e : Elem) :
    e.call env .notPassed =
      match e.kw.default with
      | none => .ok .notPassed
      | some d => defaultResult env e d := by
  cases e with
  | mk c kw items addI cont props pats addP pn deps els =>
    unfold defaultResult
    simp only [Elem.call, callCore, Elem.kw]
    cases kw.default <;> rfl

/-- a default the element itself rejects is returned as it is: the call without value does not raise the validation error -/
theorem C05_invalid_default_is_returned (env : Env) (e : Elem) (d : JVal) (hd : e.kw.default = some d)
    (hrej : e.call env (.val d) = .reject) : e.call env .notPassed = .ok (.raw d) := by
  rw [C05_no_value, hd]
  simp [defaultResult, hrej]

/-- **The property for objects, full strength** (false of the model, see the counter-witness):
    every declared property omitted from the input shows up under its Python name with its default. -/
def StatementOmitted : Prop :=
  ∀ (env : Env) (kw : Kw) (sub : Sub) (kvs : List (String × JVal)) (L : List (String × RVal))
    (key : Key) (f : Call),
    propsCall env kw sub kvs = .ok (.anon L) → findDeclared sub.props key.src = some (key, f) →
    key.src ∉ kvs.map (·.1) →
    ∃ r, f .notPassed = .ok r ∧ dictGet? L key.name = some r

/-- a visited declared property that no pattern matches is in the result under its Python name, holding what its
    element makes of the argument it was called with -/
theorem declared_member {env : Env} {kw : Kw} {sub : Sub} {kvs : List (String × JVal)} {L : List (String × RVal)}
    {key : Key} {f : Call} {a : Arg} (h : propsCall env kw sub kvs = .ok (.anon L))
    (hdecl : findDeclared sub.props key.src = some (key, f)) (hnopat : matchingPats env sub.patProps key.src = [])
    (hdist : distinct ((propsOuts resAlg env kw sub kvs).map (·.1)) = true) (hk : key.src ∈ visitKeys sub kvs)
    (harg : argOf kvs key.src = a) : ∃ r, f a = .ok r ∧ dictGet? L key.name = some r := by
  obtain ⟨r, hr, hget⟩ := propsCall_member h hdist hk
  have hres : resolveCall resAlg env kw sub key.src a = (key.name, f a) := by
    unfold resolveCall
    simp only [hdecl, hnopat]
  rw [harg, hres] at hr hget
  exact ⟨r, hr, hget⟩

/-- **Proved.** Under two hypotheses — no `patternProperties` pattern matches the property's JSON name, and
    no two visited keys resolve to one result name — an omitted declared property is in the result under
    its Python name, holding what calling its element without a value gives (`C05_no_value`: the
    converted default, the raw default if invalid, not-passed if none). -/
theorem C05_partial_omitted (env : Env) (kw : Kw) (sub : Sub) (kvs : List (String × JVal))
    (L : List (String × RVal)) (key : Key) (f : Call)
    (h : propsCall env kw sub kvs = .ok (.anon L))
    (hdecl : findDeclared sub.props key.src = some (key, f))
    (hmem : key.src ∈ sub.props.map (·.1.src))
    (homit : key.src ∉ kvs.map (·.1))
    (hnopat : matchingPats env sub.patProps key.src = [])
    (hdist : distinct ((propsOuts resAlg env kw sub kvs).map (·.1)) = true) :
    ∃ r, f .notPassed = .ok r ∧ dictGet? L key.name = some r :=
  declared_member h hdecl hnopat hdist (mem_visitKeys.mpr (.inl hmem)) (argOf_not_mem homit)

/-- **Proved.** A supplied value is never replaced by a default: under the same hypotheses the result holds,
    under the property's Python name, what the property's element makes of the *supplied* value. -/
theorem C05_partial_supplied (env : Env) (kw : Kw) (sub : Sub) (kvs : List (String × JVal))
    (L : List (String × RVal)) (key : Key) (f : Call) (x : JVal)
    (h : propsCall env kw sub kvs = .ok (.anon L))
    (hdecl : findDeclared sub.props key.src = some (key, f))
    (hkeys : distinct (kvs.map (·.1)) = true)
    (hsup : (key.src, x) ∈ kvs)
    (hnopat : matchingPats env sub.patProps key.src = [])
    (hdist : distinct ((propsOuts resAlg env kw sub kvs).map (·.1)) = true) :
    ∃ r, f (.val x) = .ok r ∧ dictGet? L key.name = some r :=
  declared_member h hdecl hnopat hdist (mem_visitKeys.mpr (.inr (List.mem_map.mpr ⟨_, hsup, rfl⟩)))
    (argOf_mem hkeys hsup)

/-! ### counter-witness: a pattern that also matches a defaulted property loses the default -/

def envA : Env := { re := fun p s => p == "^a" && s.startsWith "a", fmt := fun _ => none }

/-- `Element(properties={"a": Property(Element(default=7))}, patternProperties={"^a": Element()})({})` -/
def ePattern : Elem :=
  .mk .element { hasProps := true, hasPatProps := true } [] none none
    [({ name := "a", source := some "a" }, Elem.leaf .element { default := some (.num (.int 7)) })]
    [({ name := "^a" }, Elem.trivial)] none none [] []

/-- finding C05-pattern-overlap: the composite `AllOf(declared, pattern…)` has no default, so the omitted
    property comes back as the not-passed marker instead of 7 -/
theorem counter_pattern_overlap :
    (match ePattern.call envA (.val (.obj [])) with
     | .ok (.anon [("a", .notPassed)]) => true
     | _ => false) = true := by decide +kernel

/-- an element whose declared property no pattern matches does fill in the default (the hypotheses are satisfiable) -/
example :
    (match (Elem.mk .element { hasProps := true } [] none none
        [({ name := "a_b", source := some "a b" }, Elem.leaf .number { default := some (.num (.int 7)) })]
        [] none none [] []).call envA (.val (.obj [])) with
     | .ok (.anon [("a_b", .num (.flt 7 1))]) => true
     | _ => false) = true := by decide +kernel

end Statham.C05
