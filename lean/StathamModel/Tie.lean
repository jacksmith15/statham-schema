/-
  Kernel-checked tie between the tables regenerated from /repo on every run
  (`StathamModel/Gen/*.lean`) and what the hand-written model assumes about them.
  A change of a signature, a validator's `types`/`keywords`, a comparison operator, a
  keyword set, the order of the sub-parser table, the orderer's paths … changes the generated text and one
  of these theorems stops checking.
-/
import StathamModel.Json
import StathamModel.Gen.Validators
import StathamModel.Gen.Signatures
import StathamModel.Gen.Constants
namespace Statham.Tie
open Statham.Gen

/-! ### the ten compare-and-raise validators: raise condition and subject -/
theorem minItems_fails : MinItems.fails = fun x p => Num.lt x p := rfl
theorem maxItems_fails : MaxItems.fails = fun x p => Num.lt p x := rfl
theorem minimum_fails : Minimum.fails = fun x p => Num.lt x p := rfl
theorem maximum_fails : Maximum.fails = fun x p => Num.lt p x := rfl
theorem exclusiveMinimum_fails : ExclusiveMinimum.fails = fun x p => Num.le x p := rfl
theorem exclusiveMaximum_fails : ExclusiveMaximum.fails = fun x p => Num.le p x := rfl
theorem minProperties_fails : MinProperties.fails = fun x p => Num.lt x p := rfl
theorem maxProperties_fails : MaxProperties.fails = fun x p => Num.lt p x := rfl
theorem minLength_fails : MinLength.fails = fun x p => Num.lt x p := rfl
theorem maxLength_fails : MaxLength.fails = fun x p => Num.lt p x := rfl
theorem subjects :
    (MinItems.subjectIsLen, MaxItems.subjectIsLen, MinProperties.subjectIsLen, MaxProperties.subjectIsLen,
     MinLength.subjectIsLen, MaxLength.subjectIsLen, Minimum.subjectIsLen, Maximum.subjectIsLen,
     ExclusiveMinimum.subjectIsLen, ExclusiveMaximum.subjectIsLen)
    = (true, true, true, true, true, true, false, false, false, false) := rfl

/-! ### which Python types each validator looks at, and which keywords configure it -/
theorem validatorTable_eq : validatorTable = [
    ⟨"AdditionalItems", some [.list], ["items", "additionalItems"]⟩,
    ⟨"AdditionalProperties", some [.dict], ["__properties__"]⟩,
    ⟨"Const", none, ["const"]⟩,
    ⟨"Contains", some [.list], ["contains"]⟩,
    ⟨"Dependencies", some [.dict], ["dependencies"]⟩,
    ⟨"Enum", none, ["enum"]⟩,
    ⟨"ExclusiveMaximum", some [.int, .float], ["exclusiveMaximum"]⟩,
    ⟨"ExclusiveMinimum", some [.int, .float], ["exclusiveMinimum"]⟩,
    ⟨"Format", some [.str], ["format"]⟩,
    ⟨"InstanceOf", none, []⟩,
    ⟨"MaxItems", some [.list], ["maxItems"]⟩,
    ⟨"MaxLength", some [.str], ["maxLength"]⟩,
    ⟨"MaxProperties", some [.dict], ["maxProperties"]⟩,
    ⟨"Maximum", some [.int, .float], ["maximum"]⟩,
    ⟨"MinItems", some [.list], ["minItems"]⟩,
    ⟨"MinLength", some [.str], ["minLength"]⟩,
    ⟨"MinProperties", some [.dict], ["minProperties"]⟩,
    ⟨"Minimum", some [.int, .float], ["minimum"]⟩,
    ⟨"MultipleOf", some [.int, .float], ["multipleOf"]⟩,
    ⟨"NoMatch", none, []⟩,
    ⟨"Pattern", some [.str], ["pattern"]⟩,
    ⟨"PropertyNames", some [.dict], ["propertyNames"]⟩,
    ⟨"Required", some [.dict], ["required"]⟩,
    ⟨"UniqueItems", some [.list], ["uniqueItems"]⟩] := by rfl

/-! ### constructor signatures (what `_keyword_filter`, `custom_repr` and the serializers read) -/
theorem sigElement_names : Param.names sigElement =
    ["default", "const", "enum", "items", "additionalItems", "minItems", "maxItems", "uniqueItems",
     "contains", "minimum", "maximum", "exclusiveMinimum", "exclusiveMaximum", "multipleOf", "format",
     "pattern", "minLength", "maxLength", "required", "properties", "patternProperties",
     "additionalProperties", "minProperties", "maxProperties", "propertyNames", "dependencies",
     "description"] := by rfl
theorem sigElement_kinds : sigElement.all (fun p => p.kind == .keywordOnly) = true := by rfl
theorem sigElement_defaults : sigElement.map (·.default) =
    [.notPassed, .notPassed, .notPassed, .notPassed, .true_, .notPassed, .notPassed, .false_,
     .notPassed, .notPassed, .notPassed, .notPassed, .notPassed, .notPassed, .notPassed,
     .notPassed, .notPassed, .notPassed, .notPassed, .notPassed, .notPassed,
     .true_, .notPassed, .notPassed, .notPassed, .notPassed, .notPassed] := by rfl
theorem sigNothing_eq : sigNothing = [] := by rfl
theorem sigArray_eq : sigArray = [
    ⟨"items", .positional, .required⟩, ⟨"default", .keywordOnly, .notPassed⟩,
    ⟨"const", .keywordOnly, .notPassed⟩, ⟨"enum", .keywordOnly, .notPassed⟩,
    ⟨"additionalItems", .keywordOnly, .true_⟩, ⟨"minItems", .keywordOnly, .notPassed⟩,
    ⟨"maxItems", .keywordOnly, .notPassed⟩, ⟨"uniqueItems", .keywordOnly, .false_⟩,
    ⟨"contains", .keywordOnly, .notPassed⟩, ⟨"description", .keywordOnly, .notPassed⟩] := by rfl
theorem sigString_names : Param.names sigString =
    ["default", "const", "enum", "format", "pattern", "minLength", "maxLength", "description"] := by rfl
theorem sigNumeric_names : Param.names sigNumeric =
    ["default", "const", "enum", "minimum", "maximum", "exclusiveMinimum", "exclusiveMaximum",
     "multipleOf", "description"] := by rfl
theorem sigBoolean_names : Param.names sigBoolean = ["default", "const", "enum", "description"] := by rfl
theorem sigNull_names : Param.names sigNull = ["default", "const", "enum", "description"] := by rfl
theorem sigLeaf_allNotPassed :
    (sigString ++ sigNumeric ++ sigBoolean ++ sigNull).all
      (fun p => p.kind == .keywordOnly && p.default == .notPassed) = true := by rfl
theorem sigNot_eq : sigNot = [⟨"element", .positional, .required⟩, ⟨"default", .keywordOnly, .notPassed⟩] := by rfl
theorem sigComposition_eq : sigComposition =
    [⟨"elements", .varPositional, .required⟩, ⟨"default", .keywordOnly, .notPassed⟩] := by rfl
theorem sigObjectMeta_names : Param.names sigObjectMeta =
    ["default", "const", "enum", "required", "minProperties", "maxProperties", "patternProperties",
     "additionalProperties", "propertyNames", "dependencies", "description"] := by rfl
theorem sigObjectMeta_allNotPassed :
    sigObjectMeta.all (fun p => p.kind == .keywordOnly && p.default == .notPassed) = true := by rfl
theorem sigProperty_eq : sigProperty = [⟨"element", .positional, .required⟩,
    ⟨"required", .keywordOnly, .false_⟩, ⟨"source", .keywordOnly, .none_⟩] := by rfl

/-! ### constants the parser, the serializers and the orderer are driven by -/
theorem compositionKeywords_eq : compositionKeywords = ["anyOf", "oneOf", "allOf", "not"] := by rfl
/-- `COMPOSITION_KEYWORDS` is an ordered literal, not a set (the library's commit d27d21b) -/
theorem compositionKeywords_ordered : compositionKeywordsOrdered = true := rfl
/-- the loop that parses the list-valued composition keywords iterates the ordered tuple -/
theorem compositionLoop_ordered :
    compositionLoopIter = "(key for key in COMPOSITION_KEYWORDS if key != 'not')" := by rfl
theorem unsupportedKeywords_eq : unsupportedKeywords =
    ["$defs", "else", "if", "then", "unevaluatedItems", "unevaluatedProperties"] := by rfl
theorem parserTypeMapping_eq : parserTypeMapping =
    [("array", "Array"), ("boolean", "Boolean"), ("integer", "Integer"), ("null", "Null"),
     ("number", "Number"), ("string", "String")] := by rfl
theorem jsonTypeMapping_eq : jsonTypeMapping =
    [("Array", "array"), ("Boolean", "boolean"), ("Integer", "integer"), ("Null", "null"),
     ("ObjectMeta", "object"), ("Number", "number"), ("String", "string")] := by rfl
theorem literalKeys_eq : literalKeys = ["default", "const", "enum"] := by rfl
theorem subParsers_eq : subParsers =
    [("properties", "_parse_properties"), ("items", "_parse_items"),
     ("patternProperties", "_parse_pattern_properties"), ("propertyNames", "_parse_property_names"),
     ("contains", "_parse_contains"), ("dependencies", "_parse_dependencies")] := by rfl
theorem objectClassArgs_eq : objectClassArgs =
    ["patternProperties", "minProperties", "maxProperties", "propertyNames", "dependencies", "const",
     "enum", "default", "description"] := by rfl
theorem ordererPaths_eq : ordererPaths =
    ["items", "additionalItems", "contains", "properties.*.element", "additionalProperties",
     "patternProperties.*", "propertyNames", "dependencies.*", "elements", "element"] := by rfl
theorem typingImportCandidates_eq : typingImportCandidates = ["Any", "List", "Union"] := by rfl
theorem attrNameKeptChars_eq : attrNameKeptChars = ["_", "-", " "] := by rfl
theorem reserved_has_keywords :
    ["class", "def", "None", "True", "False", "__dict__", "__weakref__", "_dict", "__class__", "__init__"].all
      (fun n => reservedProperties.contains n) = true := by decide +kernel

end Statham.Tie
